import ZbossModel.Proofs.HostRest
/-! First come, first served - as a statement about whole histories.  `asyncio.Lock` wakes its waiters in the order in
    which they queued; here: the blocking lock's queue is always ordered like the *issue order* of the requests
    (a sub-list of the request list), because a request joins it on its very first step, when it is still the newest
    request.  With the lock discipline (the holder is the head of the queue) and no-lost-wake-up + rest (a blocking request
    still waiting for the lock is in the queue) this gives `C14_first_come_first_served`: a blocking request never gets past
    the blocking lock while a blocking request issued earlier is still waiting for it. -/
namespace Zboss.Host

/-- request `i` has ended, or there is no such request -/
def Fin (i : Nat) (s : St) : Prop := ∀ r' ∈ s.reqs, r'.id = i → r'.phase = .done

theorem fin_finish (st : St) (i : Nat) (o : Outcome) : Fin i (finish st i o) := by
  intro r' hr' hid
  rcases of_mem_updReq st i (fun r => { r with phase := .done }) r' hr' with ⟨_, hne⟩ | ⟨r, _, _, rfl⟩
  · exact absurd hid hne
  · rfl

theorem bq_unwind (st : St) (i : Nat) (o : Outcome) :
    (unwind st i o).bq = st.bq ∨
    (st.bq.head? = some i ∧ (unwind st i o).bq = st.bq.drop 1 ∧ Fin i (unwind st i o)) ∨
    ((unwind st i o).bq = st.bq.filter (· != i) ∧ Fin i (unwind st i o)) := by
  have hf : Fin i (unwind st i o) := fin_finish _ i o
  have h := queue_unwindLock_self (unwindLock (unwindLock st .T i) .M i) .B i
  rw [queue_unwindLock_other _ .M .B i (by decide), queue_unwindLock_other _ .T .B i (by decide),
    ← queue_finish _ i o] at h
  exact h.imp_right (Or.imp (fun ⟨hh, e⟩ => ⟨hh, e, hf⟩) fun e => ⟨e, hf⟩)

theorem bq_micro (st : St) (i : Nat) (hinv : Inv2 st) :
    (runReq 1 st i).bq = st.bq ∨
    (∃ r, getReq st i = some r ∧ r.phase = .waitB ∧ i ∉ st.bq ∧ (runReq 1 st i).bq = st.bq ++ [i]) ∨
    (st.bq.head? = some i ∧ (runReq 1 st i).bq = st.bq.drop 1 ∧ Fin i (runReq 1 st i)) ∨
    ((runReq 1 st i).bq = st.bq.filter (· != i) ∧ Fin i (runReq 1 st i)) := by
  refine runReq1_elim st i (fun _ => .inl rfl) fun r hg hm => ?_
  obtain ⟨hrm, hrid⟩ := getReq_mem st i r hg
  -- in terms of `queue · .B`, of which the lemmas about `acquire`, `release`, `updReq`, `finish` speak
  simp only [show ∀ s : St, s.bq = queue s .B from fun _ => rfl]
  -- only a request that waits for this lock joins its queue
  have acq : ∀ l, r.phase = waitPhase l → queue (acquire st l i).1 .B = queue st .B ∨
      ∃ r, getReq st i = some r ∧ r.phase = .waitB ∧ i ∉ queue st .B ∧ queue (acquire st l i).1 .B = queue st .B ++ [i] :=
    fun l hp => (queue_acquire st l .B i).imp_right fun ⟨hl, hni, e⟩ => ⟨r, hg, by subst hl; exact hp, hni, e⟩
  cases hm with
  | idle | skipB | toWaitT | write | skipWrite | nextFrag | lastFrag =>
    -- the request changes its own record, or takes or leaves locks T and M
    exact .inl (by simp [queue_acquire_other, queue_release_other])
  | blocked l hp => exact (acq l hp).imp_right .inl
  | locked l _ hp => rw [queue_updReq]; exact (acq l hp).imp_right .inl
  | refused | cancelled => exact (bq_unwind st i _).imp_right .inr
  | answered hp =>
    rw [queue_finish]
    split
    · -- the blocking request that got its response holds the lock: it is the head
      next hbl =>
      have hh := (hinv.2 r hrm).1 .B ((hinv.2 r hrm).2.2.2 hbl (by rw [hp]; rfl))
      exact .inr (.inr (.inl ⟨hrid ▸ hh, queue_release_self st .B i, fin_finish _ i _⟩))
    · exact .inl rfl

theorem sublist_snoc_last {l ids : List Nat} {x : Nat} (h : l.Sublist ids) (hl : ids.getLast? = some x) (hx : x ∉ l) :
    (l ++ [x]).Sublist ids := by
  obtain ⟨ys, rfl⟩ := List.getLast?_eq_some_iff.mp hl
  obtain ⟨l1, l2, rfl, h1, h2⟩ := List.sublist_append_iff.mp h
  -- whatever `l` takes from the last place is `x`
  have : l2 = [] := List.eq_nil_iff_forall_not_mem.mpr fun a ha =>
    hx (List.mem_append_right _ (List.mem_singleton.mp (h2.subset ha) ▸ ha))
  rw [this, List.append_nil]
  exact h1.append (.refl _)

/-- in a duplicate-free list where `y` comes before `x`, no sub-list has `x` in front of `y` -/
theorem no_swap {ids : List Nat} (hn : ids.Nodup) {pre post : List Nat} {x y : Nat} (he : ids = pre ++ y :: post)
    (hx : x ∈ post) {t : List Nat} (hs : (x :: t).Sublist ids) (hy : y ∈ t) : False := by
  subst he
  obtain ⟨-, hnd, hdisj⟩ := List.nodup_append.mp hn
  have hyp : y ∉ post := (List.nodup_cons.mp hnd).1
  obtain ⟨l1, l2, hl, h1, h2⟩ := List.sublist_append_iff.mp hs
  cases l1 with
  | nil =>
    -- x :: t <+ y :: post with x ≠ y: so x :: t <+ post, and then y ∈ post
    subst hl
    cases h2 with
    | cons _ h3 => exact hyp (h3.subset (List.mem_cons_of_mem _ hy))
    | cons_cons _ _ => exact hyp hx
  | cons a l1' =>
    -- x ∈ pre and x ∈ post: the list has a duplicate
    obtain ⟨rfl, -⟩ := List.cons.inj hl
    exact hdisj x (h1.subset (List.mem_cons_self ..)) x (List.mem_cons_of_mem _ hx) rfl

/-- the blocking lock's queue is ordered like the issue order of the requests; a request in its first phase that has not
    joined the queue yet is the newest request -/
structure QU (st : St) : Prop where
  sub : st.bq.Sublist (st.reqs.map (·.id))
  late : ∀ r ∈ st.reqs, r.phase = .waitB → r.id ∉ st.bq → (st.reqs.map (·.id)).getLast? = some r.id

/-- from `st` to `s'` the requests keep their ids and their order, and nobody is brought (back) to the first phase -/
def Older (st s' : St) : Prop :=
  s'.reqs.map (·.id) = st.reqs.map (·.id) ∧
  ∀ r' ∈ s'.reqs, r'.phase = .waitB → ∃ r ∈ st.reqs, r.id = r'.id ∧ r.phase = .waitB

theorem older_of {st s' : St} (h : Req → Core) (hc : (view s').cores = st.reqs.map h)
    (hh : ∀ r, (h r).id = r.id ∧ ((h r).phase = .waitB → r.phase = .waitB)) : Older st s' := by
  constructor
  · rw [← view_ids, hc, List.map_map]
    exact List.map_congr_left fun r _ => (hh r).1
  · intro r' hr' hp
    have hm : core r' ∈ (view s').cores := List.mem_map_of_mem hr'
    rw [hc] at hm
    obtain ⟨r, hr, he⟩ := List.mem_map.mp hm
    have := hh r
    rw [he] at this
    exact ⟨r, hr, this.1.symm, this.2 hp⟩

theorem older_upd {st s' : St} {i : Nat} {g : Core → Core} (hc : (view s').cores = ((view st).upd i g).cores)
    (hid : ∀ c, (g c).id = c.id) (hw : ∀ c, (g c).phase = .waitB → c.phase = .waitB) : Older st s' :=
  older_of (fun r => if ((core r).id == i) = true then g (core r) else core r) (hc.trans (List.map_map ..)) fun r => by
    split
    · exact ⟨hid _, hw _⟩
    · exact ⟨rfl, id⟩

theorem older_micro {st st' : St} {i : Nat} {r : Req} {c : Bool} (hm : Micro st i r st' c) : Older st st' := by
  have hv := hm.view
  generalize hv' : view st' = v' at hv
  cases hv with
  | stay => exact older_of core (congrArg View.cores hv') fun _ => ⟨rfl, id⟩
  | move g ha =>
    have := older_upd (g := g) (congrArg View.cores hv')
    rcases ha with ⟨_, rfl⟩ | ⟨_, rfl⟩ | ⟨_, rfl⟩ | ⟨_, _, rfl⟩ | ⟨_, _, rfl⟩ | ⟨_, _, rfl⟩ <;>
      exact this (fun _ => rfl) (fun _ h => by cases h)
  | write =>
    exact older_upd (i := i) (g := fun c => { c with phase := .waitAck }) (by rw [hv']; rfl) (fun _ => rfl) (fun _ h => by cases h)
  | fin => exact older_upd (i := i) (g := toDone) (by rw [hv']; rfl) (fun _ => rfl) (fun _ h => by cases h)

theorem qu_abs {st s' : St} (i : Nat) (ho : Older st s')
    (hbq : s'.bq = st.bq ∨
      (∃ r, getReq st i = some r ∧ r.phase = .waitB ∧ i ∉ st.bq ∧ s'.bq = st.bq ++ [i]) ∨
      (st.bq.head? = some i ∧ s'.bq = st.bq.drop 1 ∧ Fin i s') ∨
      (s'.bq = st.bq.filter (· != i) ∧ Fin i s'))
    (h : QU st) : QU s' := by
  obtain ⟨hids, hph⟩ := ho
  constructor
  · rw [hids]
    rcases hbq with e | ⟨r, hg, hp, hni, e⟩ | ⟨_, e, _⟩ | ⟨e, _⟩ <;> rw [e]
    · exact h.sub
    · obtain ⟨hrm, rfl⟩ := getReq_mem st i r hg
      exact sublist_snoc_last h.sub (h.late r hrm hp hni) hni
    · exact (List.drop_sublist 1 _).trans h.sub
    · exact List.filter_sublist.trans h.sub
  · intro r' hr' hp hni
    obtain ⟨r, hr, hid, hrp⟩ := hph r' hr' hp
    rw [hids, ← hid]
    refine h.late r hr hrp fun hin => ?_
    -- it was queued and is not any more: only the task itself leaves the queue, and then it has ended
    rw [← hid] at hni
    have hfin : r.id = i ∧ Fin i s' := by
      rcases hbq with e | ⟨_, _, _, _, e⟩ | ⟨hh, e, hfin⟩ | ⟨e, hfin⟩ <;> rw [e] at hni
      · exact absurd hin hni
      · exact absurd (List.mem_append_left _ hin) hni
      · obtain ⟨t, ht⟩ := List.head?_eq_some_iff.mp hh
        rw [ht] at hin hni
        exact ⟨(List.mem_cons.mp hin).resolve_right hni, hfin⟩
      · exact ⟨by simpa [List.mem_filter, hin] using hni, hfin⟩
    have := hfin.2 r' hr' (hid.symm.trans hfin.1)
    rw [hp] at this; cases this

theorem qu_runReq1 (st : St) (i : Nat) (hinv : Inv2 st) (h : QU st) : QU (runReq 1 st i) := by
  cases hg : getReq st i with
  | none => rw [runReq_none st i hg]; exact h
  | some r => exact qu_abs i (older_micro (runReq_micro st i r hg)) (bq_micro st i hinv) h

theorem qu_unwind (st : St) (i : Nat) (o : Outcome) (h : QU st) : QU (unwind st i o) :=
  qu_abs i (older_upd (i := i) (g := toDone) (by rw [view_unwind]; rfl) (fun _ => rfl) (fun _ h => by cases h))
    ((bq_unwind st i o).imp_right .inr) h

theorem QU.same {st s' : St} (h : QU st) (hr : s'.reqs = st.reqs := by rfl) (hb : s'.bq = st.bq := by rfl) : QU s' := by
  obtain ⟨h1, h2⟩ := h
  rw [← hr, ← hb] at h1 h2
  exact ⟨h1, h2⟩

theorem qu_add {st s' : St} (x : Req) (hr : s'.reqs = st.reqs ++ [x]) (hb : s'.bq = st.bq)
    (hj : ∀ r ∈ st.reqs, r.phase = .waitB → r.id ∈ st.bq) (h : QU st) : QU s' := by
  constructor
  · rw [hr, hb, List.map_append]
    exact h.sub.trans (List.sublist_append_left _ _)
  · intro r hrm hp hni
    rw [hr] at hrm ⊢
    rcases List.mem_append.mp hrm with hm | hm
    · exact absurd (hj r hm hp) (hb ▸ hni)
    · rw [List.mem_singleton.mp hm]; simp

theorem qu_map {st s' : St} (c : Req → Bool) (f : Req → Req) (h : QU st)
    (hr : s'.reqs = st.reqs.map fun r => if c r = true then f r else r) (hb : s'.bq = st.bq)
    (hid : ∀ r, (f r).id = r.id) (hw : ∀ r, (f r).phase = .waitB → r.phase = .waitB) : QU s' := by
  -- the queue is unchanged, so it does not matter for which request `qu_abs` is asked
  refine qu_abs 0 (older_of (fun r => core (if c r = true then f r else r)) ?_ fun r => ?_) (.inl hb) h
  · rw [view, hr, List.map_map]; rfl
  · split
    · exact ⟨hid r, hw r⟩
    · exact ⟨rfl, id⟩

/-- Only `start` adds a request, and it finds the loop at rest: everybody before the new request has joined the queue
    (`hj`).  This cannot be shown effect by effect: adding two requests in a row breaks the invariant. -/
theorem qu_pre (st : St) (e : Ev) (hj : ∀ r ∈ st.reqs, r.phase = .waitB → r.id ∈ st.bq) (h : QU st) :
    QU (pre st e).1 := by
  -- ACK waits end; response futures are resolved or cancelled
  have acked : ∀ {s' : St} {c : Req → Bool}, s'.bq = st.bq →
      s'.reqs = st.reqs.map (fun r => if c r = true then { r with phase := .acked } else r) → QU s' :=
    fun hb hr => qu_map _ _ h hr hb (fun _ => rfl) (fun _ h => nomatch h)
  have got : ∀ {s' : St} {c : Req → Bool} {v : Got}, s'.bq = st.bq →
      s'.reqs = st.reqs.map (fun r => if c r = true then { r with got := v } else r) → QU s' :=
    fun hb hr => qu_map _ _ h hr hb (fun _ => rfl) (fun _ h => h)
  cases e with
  | start id key blocking nfrags timeout =>
    rw [pre_start]; exact ite_both h.same (ite_both h.same (qu_add (st := st) _ rfl rfl hj h))
  | rxAck k => rw [pre_rxAck]; exact ite_both (acked rfl rfl) h.same
  | rxRsp key =>
    rw [pre_rxRsp]
    cases st.listeners.find? (fun l => l.2 == key) with
    | none => exact h.same
    | some l => show QU (answer _ l.1); rw [answer_eq]; exact got rfl rfl
  | tick =>
    cases hnd : nextDeadline ({ st with out := [] } : St) with
    | none => rw [pre_tick_none st hnd]; exact h.same
    | some d => rw [pre_tick st d hnd]; exact foldl_unwind_ind _ _ (fun s i _ => qu_unwind s i _) _ (acked rfl rfl)
  | cancel id => rw [pre_cancel]; exact ite_both h.same (qu_unwind _ _ _ h.same)
  | close =>
    rw [pre_close]
    exact QU.same (st := if st.resetting = true then st else cancelAll st) (ite_both h (got rfl rfl))
  | lost => rw [pre_lost]; exact h.same
  | setReset b => exact h.same
  | connect => rw [pre_connect]; exact ite_both h.same h.same

theorem qu_step (st : St) (e : Ev) (hg : Good st) (hq : st.ready = []) (h : QU st) : QU (step st e) :=
  (step_ind (P := fun s => Inv2 s ∧ QU s) (fun s _ hs => ⟨hs.1.same, hs.2.same⟩)
    (fun s i hs => ⟨inv2_runReq1 s i hs.1, qu_runReq1 s i hs.1 hs.2⟩) st e
    ⟨inv2_pre st e hg.inv, qu_pre st e (fun _ hr hp => (hg.live.waits_queued hq hr (l := .B) hp).1) h⟩).2

theorem qu_reachable (evs : List Ev) : QU (runEvents {} evs).1 :=
  reachable_ind ⟨.refl _, fun r hr => by cases hr⟩
    (fun evs e h => qu_step _ e (good_reachable evs) (rest_reachable evs) h) evs

/-- first come, first served in any state where the blocking lock's queue is in issue order and has all who wait for it -/
theorem fcfs_of_qu {st : St} (hinv : Inv2 st) (hj : ∀ r ∈ st.reqs, r.phase = .waitB → r.id ∈ st.bq)
    (hsub : st.bq.Sublist (st.reqs.map (·.id))) {r1 r2 : Req} {pre post : List Req}
    (horder : st.reqs = pre ++ r1 :: post) (h2 : r2 ∈ post) (hb2 : r2.blocking = true) (hw1 : r1.phase = .waitB) :
    afterB r2.phase = false := by
  have hr1 : r1 ∈ st.reqs := by rw [horder]; exact List.mem_append_right _ (List.mem_cons_self ..)
  have hr2 : r2 ∈ st.reqs := by rw [horder]; exact List.mem_append_right _ (List.mem_cons_of_mem _ h2)
  cases hA : afterB r2.phase with
  | false => rfl
  | true =>
    exfalso
    -- r2 holds the lock, so it heads the queue; r1 is queued, behind it
    obtain ⟨t, hbq⟩ := List.head?_eq_some_iff.mp ((hinv.2 r2 hr2).1 .B ((hinv.2 r2 hr2).2.2.2 hb2 hA))
    have hne : r1.id ≠ r2.id := fun he => by
      rw [unique_of_id st hinv.1 r1 r2 hr1 hr2 he] at hw1
      rw [hw1] at hA; cases hA
    have hin : r1.id ∈ t := (List.mem_cons.mp (hbq ▸ hj r1 hr1 hw1)).resolve_left hne
    refine no_swap hinv.1 (pre := pre.map (·.id)) (post := post.map (·.id)) (by rw [horder]; simp)
      (List.mem_map_of_mem h2) (hbq ▸ hsub) hin

end Zboss.Host
