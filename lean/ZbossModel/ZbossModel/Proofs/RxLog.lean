import ZbossModel.Proofs.Rx
/-! What one accepted frame does to the receiver (`handleFrame_eq`): sequence number and ACK event move by `Link.ackStep`,
    the writes and hand-ups are `outsOf` of the frame.  Hence the ordered log of a session is a function of the accepted
    frames alone (`session_log`), and nothing depends on what the upper-layer handler does (`dataReceived_handler`). -/
namespace Zboss.Link
open Rx

def ackSeqOf (f : Frame) : Nat := (LL.flags f.ll &&& Gen.flagACKSeq) >>> 4

/-- effect of one accepted frame on (packet sequence number, ACK event set) -/
def ackStep (hasEvent : Bool) (s : Nat × Bool) (f : Frame) : Nat × Bool :=
  if isAck f ∧ ackSeqOf f = s.1 then (s.1 % 3 + 1, s.2 || hasEvent) else s

end Zboss.Link

namespace Zboss.Rx
open Gen

theorem runWith_resyncPy : runWith resyncPy tryFrame = run tryFrame := by
  rw [funext resyncPy_eq]

theorem handleFrame_eq (h : Frame → Bool) (st : RxState) (f : Frame) :
    handleFrame h st f =
      ({ st with packSeq := (Link.ackStep st.hasEvent (st.packSeq, st.eventSet) f).1
                 eventSet := (Link.ackStep st.hasEvent (st.packSeq, st.eventSet) f).2
                 ackSeq := if isAck f then st.ackSeq else seqOf f },
       outsOf st.transport f) := by
  unfold handleFrame Link.ackStep Link.ackSeqOf outsOf isAck seqOf
  by_cases ha : Frame.hasFlag (LL.flags f.ll) Gen.flagisACK = true
  · simp only [ha, if_true, true_and]
    split <;> simp
  · simp only [ha]
    cases f.hl <;> simp

theorem foldl_handle (h : Frame → Bool) (frames : List Frame) (st : RxState) (log : List Out) :
    let r := frames.foldl (fun acc f => let s := handleFrame h acc.1 f; (s.1, acc.2 ++ s.2)) (st, log)
    r.2 = log ++ frames.flatMap (outsOf st.transport) ∧ r.1.transport = st.transport ∧ r.1.buf = st.buf ∧
    (r.1.packSeq, r.1.eventSet) = frames.foldl (Link.ackStep st.hasEvent) (st.packSeq, st.eventSet) ∧
    r.1.hasEvent = st.hasEvent := by
  induction frames generalizing st log with
  | nil => simp
  | cons f fs ih =>
    have := ih (handleFrame h st f).1 (log ++ (handleFrame h st f).2)
    rw [handleFrame_eq] at this
    rw [List.foldl_cons, List.foldl_cons, handleFrame_eq, List.flatMap_cons, ← List.append_assoc]
    exact this

theorem dataReceived_out (h : Frame → Bool) (st : RxState) (data : Bytes) :
    (dataReceived h st data).2 = (run tryFrame (st.buf ++ data)).1.flatMap (outsOf st.transport) ∧
    (dataReceived h st data).1.buf = (run tryFrame (st.buf ++ data)).2 ∧
    (dataReceived h st data).1.transport = st.transport ∧
    ((dataReceived h st data).1.packSeq, (dataReceived h st data).1.eventSet) =
      (run tryFrame (st.buf ++ data)).1.foldl (Link.ackStep st.hasEvent) (st.packSeq, st.eventSet) := by
  have := foldl_handle h (run tryFrame (st.buf ++ data)).1 { st with buf := (run tryFrame (st.buf ++ data)).2 } []
  rw [dataReceived, runWith_resyncPy]
  exact ⟨this.1, this.2.2.1, this.2.1, this.2.2.2.1⟩

theorem session_out (h : Frame → Bool) (chunks : List Bytes) (st : RxState) (acc : List Frame) :
    let r := chunks.foldl (fun a c => let r := dataReceived h a.1 c; (r.1, a.2 ++ r.2))
      (st, acc.flatMap (outsOf st.transport))
    let g := chunks.foldl (feed tryFrame) (acc, st.buf)
    r.2 = g.1.flatMap (outsOf st.transport) ∧ r.1.buf = g.2 ∧ r.1.transport = st.transport := by
  induction chunks generalizing st acc with
  | nil => exact ⟨rfl, rfl, rfl⟩
  | cons c cs ih =>
    obtain ⟨h1, h2, h3, -⟩ := dataReceived_out h st c
    have := ih (dataReceived h st c).1 (acc ++ (run tryFrame (st.buf ++ c)).1)
    rw [h2, h3, List.flatMap_append, ← h1] at this
    exact this

/-- `hb`: the buffer holds nothing but the beginning of a frame, as in every state the receiver can be in between two
    reads -/
theorem session_log (h : Frame → Bool) (st : RxState) (hb : tryFrame st.buf = .short) (chunks : List Bytes) :
    (session h st chunks).2 = (run tryFrame (st.buf ++ chunks.flatten)).1.flatMap (outsOf st.transport) ∧
    skip (session h st chunks).1.buf = skip (run tryFrame (st.buf ++ chunks.flatten)).2 := by
  have hs := session_out h chunks st []
  have hc := chunking_prefix zbossScanner chunks ([], st.buf) st.buf (by
    rw [run_short zbossScanner hb]; exact Rel.refl _)
  exact ⟨hs.1.trans (congrArg (List.flatMap _) hc.1), (congrArg skip hs.2.1).trans hc.2⟩

def handedUp (f : Frame) : Bool := !isAck f && f.hl.isSome

theorem tryFrame_ok_handedUp {b : Bytes} {f : Frame} {n : Nat} (h : tryFrame b = .ok f n) :
    handedUp f = !isAck f := by
  obtain ⟨e, _, _, _, ha⟩ := tryFrame_ok h
  rw [handedUp, (accept_ok ha).2.1, Bool.and_self]

theorem deliveredOf_outs (tr : Bool) (l : List Frame) : deliveredOf (l.flatMap (outsOf tr)) = l.filter handedUp := by
  induction l with
  | nil => rfl
  | cons f l ih =>
    rw [List.flatMap_cons, deliveredOf, List.filterMap_append, ← deliveredOf, ← deliveredOf, ih, List.filter_cons]
    cases ha : isAck f <;> cases hh : f.hl <;> cases tr <;> simp [outsOf, handedUp, deliveredOf, ha, hh]

theorem session_delivered (h : Frame → Bool) (st : RxState) (hb : tryFrame st.buf = .short) (chunks : List Bytes) :
    deliveredOf (session h st chunks).2 = (run tryFrame (st.buf ++ chunks.flatten)).1.filter handedUp := by
  rw [(session_log h st hb chunks).1, deliveredOf_outs]

theorem session_delivered_empty (h : Frame → Bool) (st : RxState) (hb : st.buf = []) (chunks : List Bytes) :
    deliveredOf (session h st chunks).2 = (run tryFrame chunks.flatten).1.filter handedUp := by
  rw [session_delivered h st (by rw [hb]; rfl), hb, List.nil_append]

theorem handleFrame_handler (h1 h2 : Frame → Bool) (st : RxState) (f : Frame) : handleFrame h1 st f = handleFrame h2 st f := by
  rw [handleFrame_eq, handleFrame_eq]

theorem dataReceived_handler (h1 h2 : Frame → Bool) (st : RxState) (data : Bytes) :
    dataReceived h1 st data = dataReceived h2 st data := by
  simp only [dataReceived, handleFrame_handler h1 h2]

end Zboss.Rx
