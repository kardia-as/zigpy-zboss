import ZbossModel.Proofs.Frame
import ZbossModel.Proofs.RxLog
/-! The receiver's frame extractor (`_extract_frame`) on the byte image of a frame: for *any* header that passes the
    checks, followed by the block it announces and then anything, the verdict is `accept` on header and block.  The
    frames the host builds and stamps, and its acknowledgement frames, are instances. -/
namespace Zboss.Rx
open Gen

theorem extent_bytes {ll : LL} (hv : Valid ll) (r : Bytes) : extent (LL.bytes ll ++ r) = some (LL.size ll + 2) := by
  have h7 : 7 ≤ (LL.bytes ll ++ r).length := by rw [List.length_append, LL.bytes_length]; exact Nat.le_add_right 7 _
  have hh : headerOk (LL.bytes ll ++ r) = true := (headerOk_valid _ h7).mpr (by rwa [LL.ofBytes_bytes])
  rw [extent, if_pos hh, (header_view _ h7).2.1, LL.ofBytes_bytes]

theorem tryFrame_bytes {ll : LL} (hv : Valid ll) (blk r : Bytes) (hsz : LL.size ll = blk.length + 5) :
    tryFrame (LL.bytes ll ++ (blk ++ r)) = accept ll blk := by
  have hl := LL.bytes_length ll
  rw [tryFrame_eq, extent_bytes hv, LL.ofBytes_bytes]
  simp only [List.length_append, hl, hsz, show ¬ 7 + (blk.length + r.length) < blk.length + 5 + 2 by omega, if_false,
    List.drop_left' hl, show blk.length + 5 + 2 - 7 = blk.length by omega, List.take_left']

/-- `h ≠ 0#32`: a zero command header is not serialized -/
theorem accept_packet (ll : LL) (p : HLPacket) (hack : Frame.hasFlag (LL.flags ll) Gen.flagisACK = false)
    (hp : if Frame.hasFlag (LL.flags ll) Gen.flagFirstFrag then ∃ h, h ≠ 0#32 ∧ p.header = some h else p.header = none) :
    accept ll p.serialize = .ok ⟨ll, some p⟩ (p.serialize.length + 7) := by
  have hc : Crc.crc16B p.body < 256 ^ 2 := (Crc.crc16 _).isLt
  have h2 : 2 ≤ p.serialize.length := by simp [HLPacket.serialize]
  have ht : p.serialize.take 2 = toLE 2 (Crc.crc16B p.body) := List.take_left' (toLE_length 2 _)
  have hd : p.serialize.drop 2 = p.body := List.drop_left' (toLE_length 2 _)
  obtain ⟨hdr, data⟩ := p
  simp only [accept, hack, Bool.false_eq_true, if_false, h2, ht, hd, fromLE_toLE 2 _ hc, and_self, if_true]
  split at hp
  · obtain ⟨h, hh, rfl⟩ := hp
    have hb := HLPacket.body_some h hh data
    have h6 : ¬ (HLPacket.mk (some h) data).serialize.length < 6 := by
      simp [HLPacket.serialize, hb, HLH.bytes_length]; omega
    have h4 : (HLPacket.mk (some h) data).serialize.drop 6 = data := by
      rw [show 6 = 2 + 4 from rfl, ← List.drop_drop, hd, hb, List.drop_left' (HLH.bytes_length h)]
    rw [if_pos ‹_›, if_neg h6, h4, hb, HLH.ofBytes_bytes]
  · simp only at hp; subst hp
    rw [if_neg ‹_›]; rfl

def Decodes (w : Frame) : Prop := ∀ r : Bytes, tryFrame (w.serialize ++ r) = .ok w w.serialize.length

theorem decodes_data {ll : LL} (hv : Valid ll) (p : HLPacket) (hsz : LL.size ll = p.serialize.length + 5)
    (hack : Frame.hasFlag (LL.flags ll) Gen.flagisACK = false)
    (hp : if Frame.hasFlag (LL.flags ll) Gen.flagFirstFrag then ∃ h, h ≠ 0#32 ∧ p.header = some h else p.header = none) :
    Decodes ⟨ll, some p⟩ := by
  intro r
  rw [Frame.serialize, List.append_assoc, tryFrame_bytes hv _ r hsz, accept_packet ll p hack hp, List.length_append,
    LL.bytes_length, Nat.add_comm]

theorem ack_fields (seq : Nat) (rt : Bool) :
    Valid (Frame.ack seq rt).ll ∧ LL.size (Frame.ack seq rt).ll = 5 ∧
    Frame.hasFlag (LL.flags (Frame.ack seq rt).ll) Gen.flagisACK = true := by
  obtain ⟨h1, h2, h3, h4, -, h6⟩ :=
    LL.sealed_fields 5 (seq <<< 4 ||| Gen.flagisACK ||| if rt then Gen.flagRetransmit else 0) (by decide)
  exact ⟨⟨h1, h3, h6, Nat.le_of_eq h2.symm⟩, h2,
    (congrArg (Frame.hasFlag · Gen.flagisACK) h4).trans (Frame.ack_isAck seq rt)⟩

theorem decodes_ack (seq : Nat) (rt : Bool) : Decodes (Frame.ack seq rt) := by
  intro r
  obtain ⟨hv, h4, h5⟩ := ack_fields seq rt
  have := tryFrame_bytes hv [] r h4
  rwa [accept, if_pos h5] at this

theorem decodes_built (fl seq n : Nat) (p : HLPacket) (hn : n = p.serialize.length + 5) (hlen : n ≤ 65535)
    (hack : Frame.hasFlag (wireFlags fl seq) Gen.flagisACK = false)
    (hp : if Frame.hasFlag (wireFlags fl seq) Gen.flagFirstFrag then ∃ h, h ≠ 0#32 ∧ p.header = some h else p.header = none) :
    Decodes (Frame.stamp seq (Frame.mkData fl p n)) ∧ (Frame.stamp seq (Frame.mkData fl p n)).serialize.length = n + 2 := by
  refine ⟨?_, (Frame.serialize_stamp_mkData fl seq n p hn hlen).2⟩
  -- the stamped header is `LL.sealed (LL.withFlags (LL.base n) _)`, whose fields `LL.sealed_fields` lists
  obtain ⟨h1, h2, h3, h4, -, h6⟩ := LL.sealed_fields n (seq <<< 2 ||| fl % 256) hlen
  rw [Frame.stamp_mkData]
  exact decodes_data ⟨h1, h3, h6, by rw [h2, hn]; exact Nat.le_add_left 5 _⟩ p (h2.trans hn) (h4 ▸ hack) (h4 ▸ hp)

/-- complete frames and first fragments -/
theorem tryFrame_built_first (fl seq n : Nat) (h : HLH) (data r : Bytes) (hh : h ≠ 0#32)
    (hn : n = (HLPacket.mk (some h) data).serialize.length + 5) (hlen : n ≤ 65535)
    (hack : Frame.hasFlag (wireFlags fl seq) Gen.flagisACK = false)
    (hfirst : Frame.hasFlag (wireFlags fl seq) Gen.flagFirstFrag = true) :
    tryFrame ((Frame.stamp seq (Frame.mkData fl ⟨some h, data⟩ n)).serialize ++ r) =
      .ok (Frame.stamp seq (Frame.mkData fl ⟨some h, data⟩ n)) (n + 2) := by
  obtain ⟨hd, hl⟩ := decodes_built fl seq n ⟨some h, data⟩ hn hlen hack (by rw [hfirst]; exact ⟨h, hh, rfl⟩)
  rw [hd r, hl]

/-- continuation fragments: their own body checksum is verified and stripped, so the frame handed up is the fragment
    the transmitter built -/
theorem tryFrame_built_cont (fl seq n : Nat) (d r : Bytes)
    (hn : n = (HLPacket.mk none d).serialize.length + 5) (hlen : n ≤ 65535)
    (hack : Frame.hasFlag (wireFlags fl seq) Gen.flagisACK = false)
    (hfirst : Frame.hasFlag (wireFlags fl seq) Gen.flagFirstFrag = false) :
    tryFrame ((Frame.stamp seq (Frame.mkData fl ⟨none, d⟩ n)).serialize ++ r) =
      .ok (Frame.stamp seq (Frame.mkData fl ⟨none, d⟩ n)) (n + 2) := by
  obtain ⟨hd, hl⟩ := decodes_built fl seq n ⟨none, d⟩ hn hlen hack (by rw [hfirst]; rfl)
  rw [hd r, hl]

theorem run_decodes (l : List Frame) (h : ∀ w ∈ l, Decodes w) :
    run tryFrame (l.map Frame.serialize).flatten = (l, []) := by
  induction l with
  | nil => exact run_short zbossScanner (zbossScanner.short_of_lt [] (Nat.zero_lt_succ 6))
  | cons w l ih =>
    rw [List.map_cons, List.flatten_cons, run_ok zbossScanner (h w List.mem_cons_self _), List.drop_left,
      ih fun g hg => h g (List.mem_cons_of_mem _ hg)]

theorem session_decodes (hnd : Frame → Bool) (st : RxState) (hb : st.buf = []) (l : List Frame)
    (hdec : ∀ w ∈ l, Decodes w) (chunks : List Bytes) (hchunks : chunks.flatten = (l.map Frame.serialize).flatten) :
    deliveredOf (session hnd st chunks).2 = l.filter handedUp := by
  rw [session_delivered_empty hnd st hb, hchunks, run_decodes l hdec]

end Zboss.Rx
