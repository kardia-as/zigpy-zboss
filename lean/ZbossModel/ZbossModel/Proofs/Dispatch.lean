import ZbossModel.Dispatch
import ZbossModel.Proofs.Run
/-! The dispatch loop in closed form (`dispatch_true`, `dispatch_false`): without `one_shot_matched` it resolves the first
    eligible waiter and calls every matching callback; with it, it only calls.  Over whole histories one conservation law
    about the ids of pending waiters (`step_count`, `history_count`) gives "resolved at most once" and "never after
    cancellation". -/
namespace Zboss.Dispatch
open Match

def eligible (c : Cmd) (l : Listener) : Bool := l.kind == .oneShot && !l.done && anyMatch l.patterns c

theorem eligible_pend {c : Cmd} {l : Listener} (h : eligible c l = true) : l.kind = .oneShot ∧ l.done = false := by
  simpa [eligible] using (Bool.and_eq_true_iff.mp h).1

theorem ty_of_matches {p c : Cmd} (h : «matches» p c = true) : p.ty = c.ty := by
  simpa using (Bool.and_eq_true_iff.mp h).1

theorem underHeader_of_match (l : Listener) (c : Cmd) (h : anyMatch l.patterns c = true) : underHeader l c = true := by
  obtain ⟨p, hp, hm⟩ := List.any_eq_true.mp h
  exact List.any_eq_true.mpr ⟨p, hp, by simp [ty_of_matches hm]⟩

def calls (c : Cmd) (t : Table) : List Out :=
  (t.filter fun l => l.kind == .callback && anyMatch l.patterns c).map fun l => .called l.id c

theorem calls_append (c : Cmd) (a b : Table) : calls c (a ++ b) = calls c a ++ calls c b := by simp [calls]

/-- The three `continue` tests of the loop collapse: a listener not under the header cannot match
    (`underHeader_of_match`), and a one-shot listener after `one_shot_matched` is passed over like a done one. -/
theorem dispatch_cons (c : Cmd) (l : Listener) (rest : Table) (osm : Bool) :
    dispatch c (l :: rest) osm =
      if !osm && eligible c l then
        ({ l with done := true } :: (dispatch c rest true).1, .resolved l.id c :: (dispatch c rest true).2)
      else (l :: (dispatch c rest osm).1, calls c [l] ++ (dispatch c rest osm).2) := by
  by_cases hm : anyMatch l.patterns c = true
  · have hu := underHeader_of_match l c hm
    cases hk : l.kind with
    | callback => simp [dispatch, eligible, calls, hu, hm, hk]
    | oneShot => cases osm <;> cases hd : l.done <;> simp [dispatch, eligible, calls, hu, hm, hk, hd]
  · simp [dispatch, eligible, calls, hm]

theorem dispatch_append (c : Cmd) (pre rest : Table) (osm : Bool) (h : osm = true ∨ ∀ l ∈ pre, eligible c l = false) :
    dispatch c (pre ++ rest) osm = (pre ++ (dispatch c rest osm).1, calls c pre ++ (dispatch c rest osm).2) := by
  induction pre with
  | nil => rfl
  | cons l pre ih =>
    have hl : (!osm && eligible c l) = false := by rcases h with rfl | h <;> simp [*]
    rw [List.cons_append, dispatch_cons, hl, ih (h.imp_right fun h l hl => h l (List.mem_cons_of_mem _ hl))]
    simp [show calls c (l :: pre) = _ from calls_append c [l] pre]

theorem dispatch_true (c : Cmd) (t : Table) : dispatch c t true = (t, calls c t) := by
  simpa [dispatch] using dispatch_append c t [] true (.inl rfl)

theorem dispatch_false (c : Cmd) (t : Table) :
    (∀ l ∈ t, eligible c l = false) ∧ dispatch c t false = (t, calls c t) ∨
    ∃ pre l post, t = pre ++ l :: post ∧ (∀ l' ∈ pre, eligible c l' = false) ∧ eligible c l = true ∧
      dispatch c t false =
        (pre ++ { l with done := true } :: post, calls c pre ++ .resolved l.id c :: calls c post) := by
  cases h : t.find? (eligible c) with
  | none =>
    have h : ∀ l ∈ t, eligible c l = false := by simpa using h
    exact .inl ⟨h, by simpa [dispatch] using dispatch_append c t [] false (.inr h)⟩
  | some l =>
    obtain ⟨hl, pre, post, rfl, hpre⟩ := List.find?_eq_some_iff_append.mp h
    have hpre : ∀ l' ∈ pre, eligible c l' = false := by simpa using hpre
    exact .inr ⟨pre, l, post, rfl, hpre, hl, by
      rw [dispatch_append c pre _ false (.inr hpre), dispatch_cons, dispatch_true]; simp [hl]⟩

theorem resolved_not_mem_calls (c : Cmd) (t : Table) (i : Nat) (d : Cmd) : Out.resolved i d ∉ calls c t := by
  simp [calls]

theorem eligible_request (key : Nat) (ps : List (Option Nat)) (x : Nat × Nat) :
    eligible ⟨key, ps⟩ ⟨x.1, .oneShot, [⟨x.2, []⟩], false⟩ = (x.2 == key) := by
  simp [eligible, anyMatch, «matches», show agree [] ps = true from rfl]

def resolvedOf (os : List Out) : List Nat := os.filterMap fun o => match o with | .resolved i _ => some i | _ => none
def resolvedIds (outs : List (List Out)) : List Nat := resolvedOf outs.flatten
def regOf : Ev → List Nat
  | .waiter i _ => [i]
  | .callback i _ => [i]
  | _ => []
def regIds (evs : List Ev) : List Nat := evs.flatMap regOf

theorem resolvedOf_append (a b : List Out) : resolvedOf (a ++ b) = resolvedOf a ++ resolvedOf b :=
  List.filterMap_append

@[simp] theorem resolvedOf_calls (c : Cmd) (t : Table) : resolvedOf (calls c t) = [] := by
  simp [resolvedOf, calls, List.filterMap_map]

theorem resolvedOf_dispatch (c : Cmd) (t : Table) :
    resolvedOf (dispatch c t false).2 = ((t.find? (eligible c)).map (·.id)).toList := by
  rcases dispatch_false c t with ⟨hno, h⟩ | ⟨pre, l, post, rfl, hpre, hl, h⟩ <;> rw [h]
  · rw [resolvedOf_calls, List.find?_eq_none.mpr (by simpa using hno)]; rfl
  · rw [List.find?_append, List.find?_eq_none.mpr (by simpa using hpre), List.find?_cons_of_pos hl,
      resolvedOf_append, resolvedOf_calls]
    exact congrArg (l.id :: ·) (resolvedOf_calls c post)

theorem runEvents_cons (t : Table) (e : Ev) (es : List Ev) :
    runEvents t (e :: es) = ((runEvents (step t e).1 es).1, (step t e).2 :: (runEvents (step t e).1 es).2) :=
  runLog_cons step t e es

theorem runEvents_append (t : Table) (a b : List Ev) :
    runEvents t (a ++ b) = ((runEvents (runEvents t a).1 b).1, (runEvents t a).2 ++ (runEvents (runEvents t a).1 b).2) :=
  runLog_append step t a b

def pend (l : Listener) : Option Nat := if l.kind = .oneShot ∧ l.done = false then some l.id else none
def pending (t : Table) : List Nat := t.filterMap pend

theorem pending_cancel (t : Table) (j : Nat) : pending (step t (.cancel j)).1 = (pending t).filter (· != j) := by
  simp only [step, pending, List.filterMap_map, List.filter_filterMap]
  congr 1; funext l
  by_cases hj : l.id = j <;> cases hk : l.kind <;> cases hd : l.done <;> simp [pend, hj, hk, hd, Option.filter_some]

open List in
/-- conservation of waiters, counted with multiplicity: an id moves at most once from pending to resolved, and once it
    has left the pending ids (resolved, cancelled) only a new registration brings it back -/
theorem step_count (t : Table) (e : Ev) (i : Nat) :
    count i (resolvedOf (step t e).2) + count i (pending (step t e).1) ≤ count i (pending t) + count i (regOf e) := by
  cases e with
  | waiter j ps | callback j ps => simp [step, regOf, resolvedOf, pending, pend]
  | cancel j =>
    rw [pending_cancel]
    simpa [regOf, resolvedOf, step] using filter_sublist.count_le i
  | settle =>
    have : pending (t.filter fun l => !l.done) = pending t := by
      simp only [pending, filterMap_filter]; congr 1; funext l; cases h : l.done <;> simp [pend, h]
    simp [step, regOf, resolvedOf, this]
  | receive c =>
    rcases dispatch_false c t with ⟨_, h⟩ | ⟨pre, l, post, rfl, _, hl, h⟩ <;> simp only [step, regOf, h]
    · simp
    · -- `l` leaves the pending ids and is the one id resolved
      have : ∀ os, resolvedOf (.resolved l.id c :: os) = l.id :: resolvedOf os := fun _ => rfl
      simp [resolvedOf_append, this, pending, pend, eligible_pend hl, List.count_cons]
      omega

open List in
theorem history_count (t : Table) (evs : List Ev) (i : Nat) :
    count i (resolvedIds (runEvents t evs).2) + count i (pending (runEvents t evs).1) ≤
      count i (pending t) + count i (regIds evs) := by
  induction evs generalizing t with
  | nil => simp [runEvents, resolvedIds, resolvedOf, regIds]
  | cons e es ih =>
    have h1 := step_count t e i
    have h2 := ih (step t e).1
    simp only [runEvents_cons, resolvedIds, regIds, flatten_cons, flatMap_cons, resolvedOf_append, count_append] at h2 ⊢
    omega

theorem resolved_once (t : Table) (evs : List Ev) (h : (pending t ++ regIds evs).Nodup) :
    (resolvedIds (runEvents t evs).2).Nodup :=
  List.nodup_iff_count.mpr fun i => by
    have := history_count t evs i
    have := List.nodup_iff_count.mp h i
    rw [List.count_append] at this
    omega

theorem never_after_cancel (t : Table) (b : List Ev) (i : Nat) (hb : i ∉ regIds b) :
    i ∉ resolvedIds (runEvents (step t (.cancel i)).1 b).2 := by
  have hp : i ∉ pending (step t (.cancel i)).1 := by simp [pending_cancel]
  have := history_count (step t (.cancel i)).1 b i
  rw [List.count_eq_zero.mpr hb, List.count_eq_zero.mpr hp] at this
  exact List.count_eq_zero.mp (by omega)

end Zboss.Dispatch
