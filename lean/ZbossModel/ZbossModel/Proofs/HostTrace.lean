import ZbossModel.Proofs.HostView
/-! On the first connection (`gen = 0`), while the transport exists, every event and every task step keep the *message
    monitor* coupled to the requests (`both_step`).  The monitor accepts an output log in which the fragments of one
    message go out in order 0,1,…,n-1 and no data frame of another message is written between the first and the last of
    them; a message whose request ended (cancelled, timed out, disconnected) before its last fragment is abandoned for
    good.  That it accepts the log of every event sequence is proved in `Proofs/HostTrace2.lean`.

    The monitor state is coupled to the requests (`TI`): the open message is that of a request inside its transmission
    which has written exactly the fragments the monitor has seen.  One micro-step breaks the coupling - a request in
    `waitT` that skips its write because the transport has gone - so it is carried under a guard (`CplG`): here "while
    the transport exists, on the first connection" (`MonOK`), in `Proofs/HostTrace2.lean` unconditionally. -/
namespace Zboss.Host

/-! ## the monitor -/

/-- monitor state: the message in progress as (owner, next fragment expected, number of fragments) -/
abbrev Mon := Option (Nat × Nat × Nat)

def monStep (c : Mon) : Out → Option Mon
  | .write j f _ n =>
    if f = 0 then
      (if c = none then some (if 1 < n then some (j, 1, n) else none) else none)
    else
      (if c = some (j, f, n) then some (if f + 1 < n then some (j, f + 1, n) else none) else none)
  | .done j _ => some (match c with
      | some (o, k, n) => if o = j then none else some (o, k, n)
      | none => none)
  | _ => some c

def monRun : Mon → List Out → Option Mon
  | c, [] => some c
  | c, o :: os => match monStep c o with
    | some c' => monRun c' os
    | none => none

theorem monRun_append (c : Mon) (a b : List Out) :
    monRun c (a ++ b) = (monRun c a).bind fun c' => monRun c' b := by
  induction a generalizing c with
  | nil => rfl
  | cons o os ih =>
    simp only [List.cons_append, monRun]
    cases monStep c o with
    | none => rfl
    | some c' => exact ih c'

theorem monRun_cons {c m : Mon} {o : Out} {os : List Out} (h : monRun c (o :: os) = some m) :
    ∃ c', monStep c o = some c' ∧ monRun c' os = some m := by
  rw [monRun] at h
  split at h
  · next c' hs => exact ⟨c', hs, h⟩
  · cases h

def clearOwner (m : Mon) (i : Nat) : Mon :=
  match m with
  | some (o, k, n) => if o = i then none else some (o, k, n)
  | none => none

theorem monStep_done (m : Mon) (i : Nat) (o : Outcome) : monStep m (.done i o) = some (clearOwner m i) := rfl

theorem monStep_write (m : Mon) (j f s n : Nat) :
    monStep m (.write j f s n) =
      if m = (if f = 0 then none else some (j, f, n)) then some (if f + 1 < n then some (j, f + 1, n) else none)
      else none := by
  unfold monStep
  by_cases hf : f = 0
  · subst hf; rfl
  · simp only [if_neg hf]

theorem monStep_other (m : Mon) {o : Out} (ho : isWD o = false) : monStep m o = some m := by
  cases o <;> first | rfl | cases ho

theorem clearOwner_some {m : Mon} {i j k n : Nat} (h : clearOwner m i = some (j, k, n)) : m = some (j, k, n) ∧ j ≠ i := by
  unfold clearOwner at h
  split at h
  · split at h
    · cases h
    · next hne => cases h; exact ⟨rfl, hne⟩
  · cases h

theorem monRun_snoc {hist : List Out} {m m' : Mon} {o : Out} (h : monRun none hist = some m) (hs : monStep m o = some m') :
    monRun none (hist ++ [o]) = some m' := by
  rw [monRun_append, h]
  simp only [Option.bind, monRun, hs]

/-! ## the coupling -/

/-- fragments written so far by a request that is inside its message -/
def prog (c : Core) : Nat := if ackPhase c.phase = true then c.frag + 1 else c.frag

/-- coupling between the monitor state and the requests -/
structure TI (m : Mon) (cs : List Core) : Prop where
  owner : ∀ j k n, m = some (j, k, n) → 0 < k ∧ k < n ∧ ∃ c ∈ cs, c.id = j ∧ c.nfrags = n ∧ inTransmit c.phase = true ∧ prog c = k
  tx : ∀ c ∈ cs, inTransmit c.phase = true → prog c = 0 ∨ c.nfrags ≤ prog c ∨ m = some (c.id, prog c, c.nfrags)
  early : ∀ c ∈ cs, (c.phase = .waitB ∨ c.phase = .waitM) → c.frag = 0
  mid : ∀ c ∈ cs, (c.phase = .sendfrag ∨ c.phase = .waitT) → c.frag = 0 ∨ c.frag < c.nfrags

/-- the monitor has accepted everything so far, and (while the transport exists) is coupled to the state -/
def MonOK0 (hist : List Out) (v : View) : Prop :=
  ∃ m, monRun none (hist ++ v.out) = some m ∧ (v.transport = true → TI m v.cores)

/-- ... on the first connection (`gen = 0`): after a re-`connect()` on the same object the coupling is not claimed
    (the leftover fragments of a request that was interrupted by `close()` go out on the new connection) -/
def MonOK (hist : List Out) (v : View) : Prop := v.gen = 0 → MonOK0 hist v

/-- the part of the coupling that speaks of one request -/
def TI1 (m : Mon) (c : Core) : Prop :=
  (inTransmit c.phase = true → prog c = 0 ∨ c.nfrags ≤ prog c ∨ m = some (c.id, prog c, c.nfrags)) ∧
  ((c.phase = .waitB ∨ c.phase = .waitM) → c.frag = 0) ∧
  ((c.phase = .sendfrag ∨ c.phase = .waitT) → c.frag = 0 ∨ c.frag < c.nfrags)

theorem TI.one {m : Mon} {cs : List Core} {c : Core} (ht : TI m cs) (hc : c ∈ cs) : TI1 m c :=
  ⟨ht.tx c hc, ht.early c hc, ht.mid c hc⟩

theorem TI.of_one {m : Mon} {cs : List Core}
    (hown : ∀ j k n, m = some (j, k, n) →
      0 < k ∧ k < n ∧ ∃ c ∈ cs, c.id = j ∧ c.nfrags = n ∧ inTransmit c.phase = true ∧ prog c = k)
    (h1 : ∀ c ∈ cs, TI1 m c) : TI m cs :=
  ⟨hown, fun c hc => (h1 c hc).1, fun c hc => (h1 c hc).2.1, fun c hc => (h1 c hc).2.2⟩

/-! ## view changes -/

theorem ti_upd {m : Mon} {v : View} {i : Nat} {g : Core → Core}
    (hown : ∀ j k n, m = some (j, k, n) →
      0 < k ∧ k < n ∧ ∃ c ∈ (v.upd i g).cores, c.id = j ∧ c.nfrags = n ∧ inTransmit c.phase = true ∧ prog c = k)
    (hother : ∀ c ∈ v.cores, c.id ≠ i → TI1 m c) (hself : ∀ c ∈ v.cores, c.id = i → TI1 m (g c)) :
    TI m (v.upd i g).cores :=
  .of_one hown (forall_mem_upd hother hself)

theorem ti_fin (m : Mon) (v : View) (i : Nat) (ht : TI m v.cores) : TI (clearOwner m i) (v.upd i toDone).cores := by
  refine ti_upd (fun j k n hm => ?_) (fun c hc hne => ?_) (fun c _ _ => ⟨nofun, nofun, nofun⟩)
  · obtain ⟨hm', hne⟩ := clearOwner_some hm
    obtain ⟨hk, hkn, c, hc, hcj, r⟩ := ht.owner j k n hm'
    exact ⟨hk, hkn, c, mem_upd_other hc (hcj ▸ hne), hcj, r⟩
  · obtain ⟨h1, h23⟩ := ht.one hc
    exact ⟨fun htx => (h1 htx).imp_right (Or.imp_right fun h => by rw [h]; exact if_neg hne), h23⟩

/-- `g c0` replaces `c0` without the monitor noticing: the request has written as many fragments as before (`hprog`), it
    leaves its transmission only with all of them written (`hout`) and enters it with none (`hin`). -/
theorem ti_replace (m : Mon) (v : View) (i : Nat) (c0 : Core) (g : Core → Core) (ht : TI m v.cores) (hu : Uniq v.cores)
    (h0 : c0 ∈ v.cores) (hi : c0.id = i) (hid : (g c0).id = c0.id) (hn : (g c0).nfrags = c0.nfrags)
    (hprog : prog (g c0) = prog c0)
    (hout : inTransmit c0.phase = true → inTransmit (g c0).phase = true ∨ c0.nfrags ≤ prog c0)
    (hin : inTransmit (g c0).phase = true → inTransmit c0.phase = true ∨ prog c0 = 0)
    (hearly : ((g c0).phase = .waitB ∨ (g c0).phase = .waitM) → (g c0).frag = 0)
    (hmid : ((g c0).phase = .sendfrag ∨ (g c0).phase = .waitT) → (g c0).frag = 0 ∨ (g c0).frag < (g c0).nfrags) :
    TI m (v.upd i g).cores := by
  have hc0 : ∀ c ∈ v.cores, c.id = i → c = c0 := fun c hc hci => hu.id c hc c0 h0 (hci.trans hi.symm)
  refine ti_upd (fun j k n hm => ?_) (fun c hc _ => ht.one hc) (fun c hc hci => ?_)
  · obtain ⟨hk, hkn, c, hc, hcj, hcn, hct, hcp⟩ := ht.owner j k n hm
    refine ⟨hk, hkn, ?_⟩
    by_cases hci : c.id = i
    · -- the open message is that of `c0`, not all of it written: `c0` stays inside
      rw [hc0 c hc hci] at hcj hcn hct hcp
      rcases hout hct with t1 | hge
      · exact ⟨g c0, mem_upd_self h0 hi, hid.trans hcj, hn.trans hcn, t1, hprog.trans hcp⟩
      · omega
    · exact ⟨c, mem_upd_other hc hci, hcj, hcn, hct, hcp⟩
  · rw [hc0 c hc hci]
    refine ⟨fun htx => ?_, hearly, hmid⟩
    rw [hprog, hid, hn]
    exact (hin htx).elim (ht.tx c0 h0) .inl

/-- the skip of a write (`waitT` without a transport, `hw`) is the one move that would break the coupling: after it a
    fragment counts as written that never was -/
theorem ti_move (m : Mon) (v : View) (i : Nat) (c0 : Core) (g : Core → Core) (ht : TI m v.cores) (hu : Uniq v.cores)
    (h0 : c0 ∈ v.cores) (hi : c0.id = i) (ha : Allowed v.transport c0 g) (hw : v.transport = false → c0.phase ≠ .waitT) :
    TI m (v.upd i g).cores := by
  have rep := ti_replace m v i c0 g ht hu h0 hi
  rcases ha with ⟨hp, rfl⟩ | ⟨hp, rfl⟩ | ⟨hp, rfl⟩ | ⟨hp, hf, _⟩ | ⟨hp, hlt, rfl⟩ | ⟨hp, hlt, rfl⟩
  · -- `waitB → waitM`: outside before and after
    exact rep rfl rfl (by rw [prog, prog, hp]; rfl) (by rw [hp]; nofun) nofun (fun _ => ht.early c0 h0 (.inl hp)) nofun
  · -- `waitM → sendfrag`: enters, with nothing written
    have hf : c0.frag = 0 := ht.early c0 h0 (.inr hp)
    have p0 : prog c0 = c0.frag := by rw [prog, hp]; rfl
    exact rep rfl rfl p0.symm (by rw [hp]; nofun) (fun _ => .inr (p0.trans hf)) nofun (fun _ => .inl hf)
  · -- `sendfrag → waitT`: inside before and after
    exact rep rfl rfl (by rw [prog, prog, hp]; rfl) (fun _ => .inl rfl) (fun _ => .inl (by rw [hp]; rfl)) nofun
      (fun _ => ht.mid c0 h0 (.inl hp))
  · exact absurd hp (hw hf)
  · -- `acked → sendfrag`, on to the next fragment: inside before and after
    exact rep rfl rfl (by rw [prog, prog, hp]; rfl) (fun _ => .inl rfl) (fun _ => .inl (by rw [hp]; rfl)) nofun
      (fun _ => .inr hlt)
  · -- `acked → waitRsp`: leaves, with everything written
    have all : c0.nfrags ≤ prog c0 := by rw [prog, hp]; exact Nat.le_of_not_lt hlt
    exact rep rfl rfl (by rw [prog, prog, hp]; rfl) (fun _ => .inr all) nofun nofun nofun

theorem ti_write (m : Mon) (v : View) (i : Nat) (c0 : Core) (s : Nat) (ht : TI m v.cores) (hu : Uniq v.cores)
    (h0 : c0 ∈ v.cores) (hi : c0.id = i) (hp : c0.phase = .waitT) :
    ∃ m', monStep m (.write i c0.frag s c0.nfrags) = some m' ∧
      TI m' (v.upd i fun c => { c with phase := .waitAck }).cores := by
  have htx0 : inTransmit c0.phase = true := by rw [hp]; rfl
  have hprog0 : prog c0 = c0.frag := by rw [prog, hp]; rfl
  have hc0 : ∀ c ∈ v.cores, inTransmit c.phase = true → c = c0 := fun c hc hct => hu.tx c hc c0 h0 hct htx0
  refine ⟨_, (monStep_write m i c0.frag s c0.nfrags).trans (if_pos ?_), ?_⟩
  · split
    · next hf =>
      -- an open message would be that of `c0`, with a fragment sent
      cases hm : m with
      | none => rfl
      | some t =>
        obtain ⟨hk, _, c, hc, _, _, hct, hcp⟩ := ht.owner t.1 t.2.1 t.2.2 hm
        rw [hc0 c hc hct, hprog0, hf] at hcp
        exact absurd hk (hcp ▸ Nat.lt_irrefl 0)
    · next hf =>
      have htx := ht.tx c0 h0 htx0
      rw [hprog0, hi] at htx
      exact (htx.resolve_left hf).resolve_left
        (Nat.not_le_of_lt ((ht.mid c0 h0 (.inr hp)).resolve_left hf))
  · refine ti_upd (fun j k n hm => ?_) (fun c hc hne => ?_) (fun c hc hci => ?_)
    · split at hm
      · next hlt => cases hm; exact ⟨Nat.succ_pos _, hlt, _, mem_upd_self h0 hi, hi, rfl, rfl, rfl⟩
      · cases hm
    · -- nobody else is inside a message
      exact ⟨fun htx => absurd (hc0 c hc htx ▸ hi) hne, (ht.one hc).2⟩
    · rw [hu.id c hc c0 h0 (hci.trans hi.symm)]
      refine ⟨fun _ => ?_, nofun, nofun⟩
      show _ ∨ c0.nfrags ≤ c0.frag + 1 ∨ _ = some (c0.id, c0.frag + 1, c0.nfrags)
      by_cases hlt : c0.frag + 1 < c0.nfrags
      · exact .inr (.inr (by rw [if_pos hlt, hi]))
      · exact .inr (.inl (Nat.le_of_not_lt hlt))

/-! ## under a guard -/

/-- the monitor has accepted everything so far and, if `G`, is coupled to the requests.  `MonOK0` is the instance
    "while the transport exists", `Cpl` (`Proofs/HostTrace2.lean`) the unguarded one. -/
def CplG (G : Prop) (hist : List Out) (v : View) : Prop :=
  ∃ m, monRun none (hist ++ v.out) = some m ∧ (G → TI m v.cores)

theorem monOK_iff {hist : List Out} {v : View} : MonOK hist v ↔ (v.gen = 0 → CplG (v.transport = true) hist v) := .rfl

theorem CplG.step {G : Prop} {hist : List Out} {v v' : View} {o : Out} (h : CplG G hist v) (ho : v'.out = v.out ++ [o])
    (hs : ∀ m, (G → TI m v.cores) → ∃ m', monStep m o = some m' ∧ (G → TI m' v'.cores)) : CplG G hist v' := by
  obtain ⟨m, hm, ht⟩ := h
  obtain ⟨m', hs, ht'⟩ := hs m ht
  exact ⟨m', by rw [ho, ← List.append_assoc]; exact monRun_snoc hm hs, ht'⟩

theorem CplG.imp {G G' : Prop} {hist : List Out} {v v' : View} (h : CplG G hist v) (ho : v'.out = v.out)
    (ht : ∀ m, (G → TI m v.cores) → G' → TI m v'.cores) : CplG G' hist v' := by
  obtain ⟨m, hm, h1⟩ := h
  exact ⟨m, by rw [ho]; exact hm, ht m h1⟩

theorem CplG.flush {G : Prop} {hist : List Out} {st : St} (h : CplG G hist (view st)) :
    CplG G (hist ++ st.out) (view { st with out := [] }) :=
  let ⟨m, hm, ht⟩ := h
  ⟨m, by simpa [view] using hm, ht⟩

theorem cplG_fin {G : Prop} {hist : List Out} {v : View} (i : Nat) (o : Outcome) (h : CplG G hist v) :
    CplG G hist (((v.upd i toDone).dropL i).emit (.done i o)) :=
  h.step rfl fun m ht => ⟨_, monStep_done m i o, fun hG => ti_fin m v i (ht hG)⟩

/-- a micro-step other than the skip of a write (`hw`) keeps the coupling; a write happens only under the guard -/
theorem cplG_micro {G : Prop} {hist : List Out} {v v' : View} {i : Nat} {c0 : Core} (h : CplG G hist v) (hu : Uniq v.cores)
    (h0 : c0 ∈ v.cores) (hi : c0.id = i) (hs : MicroStep v i c0 v') (hG : v.transport = true → G)
    (hw : G → v.transport = false → c0.phase ≠ .waitT) : CplG G hist v' := by
  cases hs with
  | stay => exact h
  | move g ha => exact h.imp rfl fun m ht hg => ti_move m v i c0 g (ht hg) hu h0 hi ha (hw hg)
  | write s hp htr =>
    refine h.step rfl fun m ht => ?_
    obtain ⟨m', hs, ht'⟩ := ti_write m v i c0 s (ht (hG htr)) hu h0 hi hp
    exact ⟨m', hs, fun _ => ht'⟩
  | fin o _ => exact cplG_fin i o h

theorem monok_micro (hist : List Out) (v v' : View) (i : Nat) (c0 : Core) (hu : Uniq v.cores) (h0 : c0 ∈ v.cores)
    (hi : c0.id = i) (hs : MicroStep v i c0 v') (h : MonOK hist v) : MonOK hist v' := by
  have hf : v'.transport = v.transport ∧ v'.gen = v.gen := by cases hs <;> exact ⟨rfl, rfl⟩
  rw [monOK_iff] at h ⊢
  intro hgen
  exact (cplG_micro (h (hf.2 ▸ hgen)) hu h0 hi hs id fun ht hf => by rw [ht] at hf; cases hf).imp rfl
    fun m ht htr => ht (hf.1 ▸ htr)

/-- both invariants together: the lock discipline and the monitor coupling -/
def Both (hist : List Out) (st : St) : Prop := Inv2 st ∧ MonOK hist (view st)

theorem both_runReq1 (hist : List Out) (st : St) (i : Nat) (h : Both hist st) : Both hist (runReq 1 st i) :=
  ⟨inv2_runReq1 st i h.1, view_runReq1 (monok_micro hist) st i h.1 h.2⟩

/-! ## events -/

/-- per-request changes the monitor cannot see -/
def Similar (c c' : Core) : Prop :=
  c'.id = c.id ∧ c'.nfrags = c.nfrags ∧ c'.frag = c.frag ∧ inTransmit c'.phase = inTransmit c.phase ∧
  ackPhase c'.phase = ackPhase c.phase ∧
  ((c'.phase = .waitB ∨ c'.phase = .waitM) → (c.phase = .waitB ∨ c.phase = .waitM)) ∧
  ((c'.phase = .sendfrag ∨ c'.phase = .waitT) → (c.phase = .sendfrag ∨ c.phase = .waitT))

theorem Similar.refl (c : Core) : Similar c c := ⟨rfl, rfl, rfl, rfl, rfl, id, id⟩

theorem ti_map (m : Mon) (rs : List Req) (g : Req → Req) (hg : ∀ r, Similar (core r) (core (g r)))
    (ht : TI m (rs.map core)) : TI m ((rs.map g).map core) := by
  have hprog : ∀ r, prog (core (g r)) = prog (core r) := fun r => by simp only [prog, (hg r).2.2.2.2.1, (hg r).2.2.1]
  refine .of_one (fun j k n hm => ?_) (List.forall_mem_map.mpr (List.forall_mem_map.mpr fun r hr => ?_))
  · obtain ⟨hk, hkn, c, hc, hcj, hcn, hct, hcp⟩ := ht.owner j k n hm
    obtain ⟨r, hr, rfl⟩ := List.mem_map.mp hc
    obtain ⟨e1, e2, _, e4, _⟩ := hg r
    exact ⟨hk, hkn, core (g r), List.mem_map_of_mem (List.mem_map_of_mem hr), e1.trans hcj, e2.trans hcn, e4.trans hct,
      (hprog r).trans hcp⟩
  · obtain ⟨e1, e2, e3, e4, _, e6, e7⟩ := hg r
    obtain ⟨h1, h2, h3⟩ := ht.one (List.mem_map_of_mem hr)
    exact ⟨fun htx => by rw [hprog r, e1, e2]; exact h1 (e4 ▸ htx), fun hph => e3 ▸ h2 (e6 hph),
      fun hph => by rw [e3, e2]; exact h3 (e7 hph)⟩

theorem Passive.similar {r r' : Req} (h : Passive r r') : Similar (core r) (core r') := by
  cases h with
  | same | got => exact .refl _
  | acked hp =>
    have hp : (core r).phase = .waitAck := hp
    exact ⟨rfl, rfl, rfl, by rw [hp]; rfl, by rw [hp]; rfl, nofun, nofun⟩

theorem similar_got (c : Req → Bool) (v : Got) (r : Req) :
    Similar (core r) (core (if c r = true then { r with got := v } else r)) := by
  split <;> exact Similar.refl _

theorem ti_add (m : Mon) (cs : List Core) (c : Core) (ht : TI m cs) (hp : c.phase = .waitB) (hf : c.frag = 0) :
    TI m (cs ++ [c]) := by
  refine .of_one (fun j k n hm => ?_) (List.forall_mem_append.mpr ⟨fun _ => ht.one,
    List.forall_mem_singleton.mpr ⟨by rw [hp]; nofun, fun _ => hf, fun _ => .inl hf⟩⟩)
  obtain ⟨hk, hkn, w, hw, r⟩ := ht.owner j k n hm
  exact ⟨hk, hkn, w, List.mem_append_left _ hw, r⟩

theorem cplG_eff {G : Prop} (H : List Out) (a b : St) (he : Eff a b) (h : CplG G H (view a)) : CplG G H (view b) := by
  have change : ∀ {b}, Change a b → CplG G H (view b) := by
    rintro _ ⟨g, keep, L, R, hg⟩
    exact h.imp rfl fun m ht hG => ti_map m a.reqs g (fun r => (hg r).similar) (ht hG)
  cases he with
  | regs | closeUart | lost => exact h
  | emit o ho => exact h.step rfl fun m ht => ⟨m, monStep_other m ho, ht⟩
  | refuse id hfresh =>
    have := cplG_fin id .runtimeError h
    rwa [View.upd_eq _ id toDone fun c hc hi => by
      obtain ⟨r, hr, rfl⟩ := List.mem_map.mp hc; exact absurd hi (hfresh r hr)] at this
  | add id key blocking nfrags timeout =>
    refine h.imp rfl fun m ht hG => ?_
    show TI m ((a.reqs ++ [_]).map core)
    rw [List.map_append]
    exact ti_add m _ _ (ht hG) rfl rfl
  | ackEnd c hc => exact change (.ackEnd a c hc)
  | answer i => exact change (.answer a i)
  | cancelAll => exact change (.cancelAll a)
  | unwind i o => rw [view_unwind]; exact cplG_fin i o h

theorem eff_flags {a b : St} (he : Eff a b) : b.gen = a.gen ∧ (b.transport = true → a.transport = true) := by
  cases he with
  | answer i => rw [answer_eq]; exact ⟨rfl, id⟩
  | closeUart => exact ⟨rfl, nofun⟩
  | unwind i o => exact ⟨(frame_unwind a i o).gen, fun h => (frame_unwind a i o).transport ▸ h⟩
  | _ => exact ⟨rfl, id⟩

theorem gen_step (st : St) (e : Ev) (hne : e ≠ .connect) : (step st e).gen = st.gen :=
  (frame_step st e).gen.trans
    ((pre_effs st e hne).ind (P := fun s => s.gen = st.gen) (fun _ _ he h => (eff_flags he).1.trans h) rfl)

theorem gen_zero (evs : List Ev) (hnc : ∀ e ∈ evs, e ≠ .connect) : (runEvents {} evs).1.gen = 0 := by
  induction evs using history_ind with
  | h0 => rfl
  | hs evs e ih =>
    rw [runEvents_snoc, gen_step _ e (hnc e (by simp))]
    exact ih fun x hx => hnc x (by simp [hx])

theorem both_eff (H : List Out) (a b : St) (he : Eff a b) (h : Both H a) : Both H b :=
  ⟨inv2_eff a b he h.1, fun hgen =>
    (cplG_eff H a b he (h.2 ((eff_flags he).1.symm.trans hgen))).imp rfl fun _ ht htr => ht ((eff_flags he).2 htr)⟩

theorem both_pre (hist : List Out) (st : St) (e : Ev) (h : Both hist st) : Both (hist ++ st.out) (pre st e).1 :=
  pre_ind (both_eff _)
    -- a second connection: nothing is claimed about the trace from here on
    (fun _ _ ha => ⟨ha.1.same, fun hgen => (Nat.succ_ne_zero _ hgen).elim⟩) st e
    ⟨h.1.same, fun hgen => CplG.flush (h.2 hgen)⟩

theorem both_step (hist : List Out) (st : St) (e : Ev) (h : Both hist st) : Both (hist ++ st.out) (step st e) :=
  step_ind (fun _ _ hs => ⟨hs.1.same, hs.2⟩) (both_runReq1 _) st e (both_pre hist st e h)

theorem ti_nil : TI none [] := .of_one nofun fun _ h => (List.not_mem_nil h).elim

theorem both_init : Both [] ({} : St) := ⟨inv2_init, fun _ => ⟨none, rfl, fun _ => ti_nil⟩⟩

/-! ## without the monitor -/

def isWrite : Out → Bool
  | .write _ _ _ _ => true
  | _ => false

def isDoneOf (i : Nat) : Out → Bool
  | .done j _ => j == i
  | _ => false

theorem mon_last (pre : List Out) (c0 : Mon) (j k n : Nat) (h : monRun c0 pre = some (some (j, k, n))) :
    (c0 = some (j, k, n) ∧ ∀ o ∈ pre, isWrite o = false ∧ isDoneOf j o = false) ∨
    ∃ pre1 mid s', pre = pre1 ++ [.write j (k - 1) s' n] ++ mid ∧ 0 < k ∧
      ∀ o ∈ mid, isWrite o = false ∧ isDoneOf j o = false := by
  induction pre generalizing c0 with
  | nil => exact .inl ⟨Option.some.inj h, fun _ h => (List.not_mem_nil h).elim⟩
  | cons o os ih =>
    obtain ⟨c1, hs, h⟩ := monRun_cons h
    rcases ih c1 h with ⟨rfl, hfree⟩ | ⟨pre1, mid, s', he, hk, hfree⟩
    · -- nothing relevant after `o`: it is `o` that brought the monitor to `(j, k, n)`, or it left it there
      have keep : isWrite o = false ∧ isDoneOf j o = false → ∀ x ∈ o :: os, isWrite x = false ∧ isDoneOf j x = false :=
        fun ho => List.forall_mem_cons.mpr ⟨ho, hfree⟩
      cases o with
      | write j' f s' n' =>
        rw [monStep_write] at hs
        obtain ⟨_, hs⟩ := Option.ite_none_right_eq_some.mp hs
        obtain ⟨_, hs⟩ := Option.ite_none_right_eq_some.mp (Option.some.inj hs)
        cases hs
        exact .inr ⟨[], os, s', rfl, Nat.succ_pos f, hfree⟩
      | done j' o' =>
        obtain ⟨hc0, hne⟩ := clearOwner_some (Option.some.inj hs)
        exact .inl ⟨hc0, keep ⟨rfl, beq_eq_false_iff_ne.mpr fun h => hne h.symm⟩⟩
      | wack | closeOut | appLost => exact .inl ⟨Option.some.inj hs, keep ⟨rfl, rfl⟩⟩
    · exact .inr ⟨o :: pre1, mid, s', by rw [he]; rfl, hk, hfree⟩

/-- acceptance of a log that contains fragment `f > 0` of a message: fragment `f - 1` of the same message is the
    last data frame before it, and the request has not ended in between -/
theorem contiguous_of_accepts (log pre post : List Out) (i f s n : Nat) (hf : 0 < f)
    (hacc : ∃ m, monRun none log = some m) (hlog : log = pre ++ [.write i f s n] ++ post) :
    ∃ pre1 mid s', pre = pre1 ++ [.write i (f - 1) s' n] ++ mid ∧
      ∀ o ∈ mid, isWrite o = false ∧ isDoneOf i o = false := by
  obtain ⟨m, hm⟩ := hacc
  rw [hlog, List.append_assoc, monRun_append] at hm
  obtain ⟨c, hpre, hm⟩ := Option.bind_eq_some_iff.mp hm
  -- fragment `f > 0` is accepted: the monitor was waiting for it
  obtain ⟨_, hs, _⟩ := monRun_cons hm
  rw [monStep_write, if_neg (Nat.pos_iff_ne_zero.mp hf)] at hs
  rw [(Option.ite_none_right_eq_some.mp hs).1] at hpre
  rcases mon_last pre none i f n hpre with ⟨h, _⟩ | ⟨pre1, mid, s', he, _, hfree⟩
  · cases h
  · exact ⟨pre1, mid, s', he, hfree⟩
end Zboss.Host
