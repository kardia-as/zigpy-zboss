/-! Contiguous bit fields of a `BitVec w`: read (`field`) and overwrite (`setField`), with the
    get/set laws proved once for every offset and length. -/
namespace Zboss

variable {w : Nat}

def mask (len : Nat) : BitVec w := BitVec.ofNat w (2 ^ len - 1)

def field (off len : Nat) (x : BitVec w) : BitVec w := (x >>> off) &&& mask len

def setField (off len : Nat) (x v : BitVec w) : BitVec w :=
  (x &&& ~~~(mask len <<< off)) ||| ((v &&& mask len) <<< off)

theorem getLsbD_mask (len i : Nat) :
    (mask len : BitVec w).getLsbD i = (decide (i < w) && decide (i < len)) := by
  rw [mask, BitVec.getLsbD_ofNat, Nat.testBit_two_pow_sub_one]

theorem toNat_and_mask (v : BitVec w) (l : Nat) : (v &&& mask l).toNat = v.toNat % 2 ^ l := by
  apply Nat.eq_of_testBit_eq
  intro i
  rw [BitVec.testBit_toNat, BitVec.getLsbD_and, getLsbD_mask, Nat.testBit_mod_two_pow, BitVec.testBit_toNat]
  by_cases h : i < w
  · simp [h, Bool.and_comm]
  · simp [h, BitVec.getLsbD_of_ge v i (by omega)]

/-- `getLsbD_ushiftRight` with the range test kept, so that the bit of `x` can be abstracted -/
theorem getLsbD_ushiftRight' (x : BitVec w) (n i : Nat) :
    (x >>> n).getLsbD i = (decide (i + n < w) && x.getLsbD (i + n)) := by
  have := BitVec.getLsbD_of_ge x (i + n)
  rw [BitVec.getLsbD_ushiftRight, Nat.add_comm]
  grind

theorem getLsbD_field (off len : Nat) (x : BitVec w) (i : Nat) :
    (field off len x).getLsbD i = (decide (i < len) && (decide (i + off < w) && x.getLsbD (i + off))) := by
  rw [field, BitVec.getLsbD_and, getLsbD_ushiftRight', getLsbD_mask]
  grind

theorem getLsbD_setField (off len : Nat) (x v : BitVec w) (i : Nat) :
    (setField off len x v).getLsbD i =
      if off ≤ i ∧ i < off + len then (decide (i < w) && v.getLsbD (i - off)) else x.getLsbD i := by
  have := BitVec.getLsbD_of_ge x i
  simp only [setField, BitVec.getLsbD_or, BitVec.getLsbD_and, BitVec.getLsbD_not, BitVec.getLsbD_shiftLeft,
    getLsbD_mask]
  grind

structure IsField (get : BitVec w → BitVec w) (set : BitVec w → BitVec w → BitVec w) (off len : Nat) : Prop where
  get_eq : get = field off len
  set_eq : set = setField off len

namespace IsField
variable {g g' : BitVec w → BitVec w} {s s' : BitVec w → BitVec w → BitVec w} {o l o' l' : Nat}

theorem of_getLsbD (H : ∀ x v i, i < w → (g x).getLsbD i = (field o l x).getLsbD i ∧
    (s x v).getLsbD i = (setField o l x v).getLsbD i) : IsField g s o l :=
  ⟨funext fun x => BitVec.eq_of_getLsbD_eq fun i hi => (H x x i hi).1,
   funext fun x => funext fun v => BitVec.eq_of_getLsbD_eq fun i hi => (H x v i hi).2⟩

theorem get_set (F : IsField g s o l) (hw : o + l ≤ w) (x v : BitVec w) : g (s x v) = v &&& mask l := by
  obtain ⟨rfl, rfl⟩ := F
  apply BitVec.eq_of_getLsbD_eq
  intro i _
  rw [getLsbD_field, getLsbD_setField, BitVec.getLsbD_and, getLsbD_mask]
  by_cases hl : i < l
  · simp [hl, show o ≤ i + o ∧ i + o < o + l by omega, show i + o < w by omega, show i < w by omega]
  · simp [hl]

theorem get_set_of_disjoint (F : IsField g s o l) (F' : IsField g' s' o' l') (h : o + l ≤ o' ∨ o' + l' ≤ o)
    (x v : BitVec w) : g (s' x v) = g x := by
  obtain ⟨rfl, -⟩ := F
  obtain ⟨-, rfl⟩ := F'
  apply BitVec.eq_of_getLsbD_eq
  intro i _
  rw [getLsbD_field, getLsbD_field, getLsbD_setField]
  by_cases hl : i < l
  · rw [if_neg (by omega)]
  · simp [hl]

theorem set_set (F : IsField g s o l) (x a b : BitVec w) : s (s x a) b = s x b := by
  obtain ⟨-, rfl⟩ := F
  apply BitVec.eq_of_getLsbD_eq
  intro i _
  simp only [getLsbD_setField]
  split <;> rfl

theorem set_get (F : IsField g s o l) (x : BitVec w) : s x (g x) = x := by
  obtain ⟨rfl, rfl⟩ := F
  apply BitVec.eq_of_getLsbD_eq
  intro i hi
  rw [getLsbD_setField, getLsbD_field]
  split
  · next h => simp [hi, show i - o < l by omega, show i - o + o = i by omega]
  · rfl

theorem toNat_get (F : IsField g s o l) (x : BitVec w) : (g x).toNat = x.toNat / 2 ^ o % 2 ^ l := by
  obtain ⟨rfl, -⟩ := F
  rw [field, toNat_and_mask, BitVec.toNat_ushiftRight, Nat.shiftRight_eq_div_pow]

theorem toNat_get_lt (F : IsField g s o l) (x : BitVec w) : (g x).toNat < 2 ^ l := by
  rw [F.toNat_get]; exact Nat.mod_lt _ (Nat.two_pow_pos l)

theorem toNat_get_set (F : IsField g s o l) (hw : o + l ≤ w) (x : BitVec w) (n : Nat) :
    (g (s x (BitVec.ofNat w n))).toNat = n % 2 ^ l := by
  rw [F.get_set hw, toNat_and_mask, BitVec.toNat_ofNat, Nat.mod_mod_of_dvd n (Nat.pow_dvd_pow 2 (show l ≤ w by omega))]

theorem toNat_get_set_of_disjoint (F : IsField g s o l) (F' : IsField g' s' o' l') (h : o + l ≤ o' ∨ o' + l' ≤ o)
    (x v : BitVec w) : (g (s' x v)).toNat = (g x).toNat := by
  rw [F.get_set_of_disjoint F' h]

end IsField

end Zboss
