import ZbossModel.Crc
import ZbossModel.Proofs.BitField
/-! GF(2)-linearity and injectivity of the LFSR clock; table step = eight clocks for every (state, byte) pair
    (`step16_eq_spec`, `step8_eq_spec`: each table is compared once with `iter`, and `iter_split` separates the byte that
    indexes the table from the rest of the register); hence the table-driven folds are the bit-serial ones
    (`crc16From_eq`, `crc8From_eq`, with `foldl_conj` for the init/xorout constant folded into the CRC-8 table). -/
namespace Zboss.Crc

variable {w : Nat}

theorem bitStep_xor (P a b : BitVec w) : bitStep P (a ^^^ b) = bitStep P a ^^^ bitStep P b := by
  have hf (x y : Bool) : (bif x ^^ y then P else 0#w) = (bif x then P else 0#w) ^^^ (bif y then P else 0#w) := by
    cases x <;> cases y <;> simp
  rw [bitStep, bitStep, bitStep, BitVec.ushiftRight_xor_distrib, BitVec.getLsbD_xor, hf]
  ac_rfl

theorem bitStep_zero (P : BitVec w) : bitStep P 0#w = 0#w := by simp [bitStep]

theorem iter_xor (P : BitVec w) (n : Nat) (a b : BitVec w) :
    iter P n (a ^^^ b) = iter P n a ^^^ iter P n b := by
  induction n generalizing a b with
  | zero => rfl
  | succ n ih => simp [iter, bitStep_xor, ih]

theorem iter_zero (P : BitVec w) (n : Nat) : iter P n 0#w = 0#w := by simpa using iter_xor P n 0#w 0#w

theorem iter_add (P : BitVec w) (m n : Nat) (c : BitVec w) :
    iter P (m + n) c = iter P n (iter P m c) := by
  induction m generalizing c with
  | zero => simp [iter]
  | succ m ih => rw [Nat.succ_add]; simp only [iter]; exact ih _

theorem bitStep_eq_zero (P c : BitVec w) (hw : 0 < w) (hP : P.getLsbD (w - 1) = true)
    (h : bitStep P c = 0#w) : c = 0#w := by
  -- the top bit of `c >>> 1` is clear, so the top bit of `bitStep P c` is the low bit of `c`
  have htop : (bitStep P c).getLsbD (w - 1) = c.getLsbD 0 := by
    rw [bitStep, BitVec.getLsbD_xor, BitVec.getLsbD_ushiftRight, BitVec.getLsbD_of_ge c _ (by omega)]
    cases c.getLsbD 0 <;> simp [hP]
  rw [h, BitVec.getLsbD_zero] at htop
  -- so there is no feedback and `c >>> 1 = 0`
  rw [bitStep, ← htop, cond_false, BitVec.xor_zero] at h
  apply BitVec.eq_of_getLsbD_eq
  intro i _
  cases i with
  | zero => simpa using htop.symm
  | succ j => simpa [BitVec.getLsbD_ushiftRight, Nat.add_comm] using congrArg (·.getLsbD j) h

theorem iter_eq_zero (P : BitVec w) (hw : 0 < w) (hP : P.getLsbD (w - 1) = true) (n : Nat)
    (c : BitVec w) (h : iter P n c = 0#w) : c = 0#w := by
  induction n generalizing c with
  | zero => exact h
  | succ n ih => exact bitStep_eq_zero P c hw hP (ih _ h)

theorem iter_shift (P : BitVec w) (k : Nat) (c : BitVec w)
    (h : ∀ i, i < k → c.getLsbD i = false) : iter P k c = c >>> k := by
  induction k generalizing c with
  | zero => simp [iter]
  | succ k ih =>
    have h0 : c.getLsbD 0 = false := h 0 (by omega)
    have hs : bitStep P c = c >>> 1 := by rw [bitStep, h0, cond_false, BitVec.xor_zero]
    rw [iter, hs, ih]
    · rw [← BitVec.shiftRight_add]; congr 1; omega
    · intro i hi
      rw [BitVec.getLsbD_ushiftRight]; exact h _ (by omega)

theorem iter_split (P : BitVec w) (k : Nat) (x : BitVec w) :
    iter P k x = (x >>> k) ^^^ iter P k (x &&& mask k) := by
  -- `x` is its low `k` bits xor a rest that has them clear
  have hx : x = (x ^^^ (x &&& mask k)) ^^^ (x &&& mask k) := by
    rw [BitVec.xor_assoc, BitVec.xor_self, BitVec.xor_zero]
  have hlow (i : Nat) (hi : i < k) : (x ^^^ (x &&& mask k)).getLsbD i = false := by
    rw [BitVec.getLsbD_xor, BitVec.getLsbD_and, getLsbD_mask, decide_eq_true hi, Bool.and_true]
    by_cases hw : i < w
    · rw [decide_eq_true hw, Bool.and_true, Bool.xor_self]
    · rw [BitVec.getLsbD_of_ge x i (Nat.le_of_not_lt hw)]; rfl
  have hhi : (x &&& mask k) >>> k = 0#w := by
    apply BitVec.eq_of_getLsbD_eq
    intro i _
    rw [BitVec.getLsbD_ushiftRight, BitVec.getLsbD_and, getLsbD_mask,
      decide_eq_false (Nat.not_lt.2 (Nat.le_add_right k i)), Bool.and_false, Bool.and_false, BitVec.getLsbD_zero]
  conv => lhs; rw [hx]
  rw [iter_xor, iter_shift P k _ hlow, BitVec.ushiftRight_xor_distrib, hhi, BitVec.xor_zero]

def P8 : W8 := 0xB2#8
def P16 : W16 := 0x8408#16

theorem koop_poly_reflected : koop.poly.reverse = P8 := by decide
theorem kermit_poly_reflected : kermit.poly.reverse = P16 := by decide

/-- Comparing the two lists is one pass for the kernel; 256 separate `Array.getD` lookups would each walk the literal
    again. -/
theorem getD_of_toList_eq {t : Array Nat} {f : Nat → Nat} {n : Nat} (h : t.toList = (List.range n).map f)
    (i : Fin n) : t.getD i.val 0 = f i.val := by
  rw [Array.getD_eq_getD_getElem?, ← Array.getElem?_toList, h]
  simp

theorem table16_list : Gen.table16Raw.toList =
    (List.range 256).map fun i => (iter P16 8 (BitVec.ofNat 16 i)).toNat := by decide +kernel

theorem table8_list : Gen.table8Raw.toList =
    (List.range 256).map fun i => ((iter P8 8 (BitVec.ofNat 8 i ^^^ 0xFF#8)) ^^^ 0xFF#8).toNat := by decide +kernel

theorem table16_ok : ∀ i : Fin 256,
    Gen.table16Raw.getD i.val 0 = (iter P16 8 (BitVec.ofNat 16 i.val)).toNat := getD_of_toList_eq table16_list

/-- the CRC8 table has init/xorout 0xFF folded in: `T'[x] = T[x ^ 0xFF] ^ 0xFF` -/
theorem table8_ok : ∀ i : Fin 256,
    Gen.table8Raw.getD i.val 0 = ((iter P8 8 (BitVec.ofNat 8 i.val ^^^ 0xFF#8)) ^^^ 0xFF#8).toNat :=
  getD_of_toList_eq table8_list

theorem table_sizes : Gen.table8Raw.size = 256 ∧ Gen.table16Raw.size = 256 := by
  rw [← Array.length_toList, ← Array.length_toList, table8_list, table16_list]; simp

theorem step16_eq_spec (s : W16) (b : W8) : step16 s b = specStep P16 s b := by
  have hb : (s ^^^ b.zeroExtend 16) >>> 8 = s >>> 8 := by
    rw [BitVec.ushiftRight_xor_distrib, show BitVec.zeroExtend 16 b >>> 8 = 0#16 from ?_, BitVec.xor_zero]
    apply BitVec.eq_of_toNat_eq
    rw [BitVec.toNat_ushiftRight, BitVec.toNat_setWidth, Nat.mod_eq_of_lt (Nat.lt_trans b.isLt (by decide)),
      Nat.shiftRight_eq_div_pow, Nat.div_eq_of_lt b.isLt]
    rfl
  have ht := table16_ok ⟨((s ^^^ b.zeroExtend 16) &&& 0xFF#16).toNat, by
    rw [BitVec.toNat_and]; exact Nat.lt_of_le_of_lt Nat.and_le_right (by decide)⟩
  rw [step16, specStep, iter_split P16 8, hb, ht, BitVec.ofNat_toNat, BitVec.setWidth_eq, BitVec.ofNat_toNat,
    BitVec.setWidth_eq]
  rfl

theorem step8_eq_spec (s b : W8) : step8 s b = specStep P8 (s ^^^ 0xFF#8) b ^^^ 0xFF#8 := by
  rw [step8, specStep, table8_ok ⟨(s ^^^ b).toNat, (s ^^^ b).isLt⟩, BitVec.ofNat_toNat, BitVec.setWidth_eq,
    BitVec.ofNat_toNat, BitVec.setWidth_eq, show b.zeroExtend 8 = b from BitVec.setWidth_eq b]
  congr 2
  ac_rfl

/-- `c` is init = xorout folded into the table; `c = 0` for a plain table -/
theorem foldl_conj (P c : BitVec w) (step : BitVec w → W8 → BitVec w)
    (hstep : ∀ s b, step s b = specStep P (s ^^^ c) b ^^^ c) (s : BitVec w) (bs : List W8) :
    bs.foldl step s = bs.foldl (specStep P) (s ^^^ c) ^^^ c := by
  induction bs generalizing s with
  | nil => rw [List.foldl_nil, List.foldl_nil, BitVec.xor_assoc, BitVec.xor_self, BitVec.xor_zero]
  | cons b t ih =>
    rw [List.foldl_cons, List.foldl_cons, ih, hstep, BitVec.xor_assoc _ c c, BitVec.xor_self, BitVec.xor_zero]

theorem step16_conj (s : W16) (b : W8) : step16 s b = specStep P16 (s ^^^ 0#16) b ^^^ 0#16 := by
  rw [BitVec.xor_zero, BitVec.xor_zero, step16_eq_spec]

theorem crc16From_eq (s : W16) (bs : List W8) : crc16From s bs = bs.foldl (specStep P16) s := by
  rw [crc16From, foldl_conj P16 0#16 step16 step16_conj, BitVec.xor_zero, BitVec.xor_zero]

theorem crc8From_eq (s : W8) (bs : List W8) :
    crc8From s bs = bs.foldl (specStep P8) (s ^^^ 0xFF#8) ^^^ 0xFF#8 :=
  foldl_conj P8 0xFF#8 step8 step8_eq_spec s bs

end Zboss.Crc
