import ZbossModel.Header
import ZbossModel.Proofs.BitField
/-! The generated accessor code reads and writes the fields of the documented header layouts, so its
    get/set laws are those of `Proofs/BitField`; the byte image of a header. -/
namespace Zboss
open Gen

/-- `IsField get set off len` for generated accessors, whatever and/or/xor/shift expression the translator
    printed. Bit `i` of `get h` is a Boolean function of bit `i + off` of `h`, and bit `i` of `set h v` one of
    bit `i` of `h` and bit `i - off` of `v`, as for `field` and `setField`. With these three bits generalized,
    what is left is closed over `i < w` and three Booleans, and the kernel evaluates it. -/
macro "bitfield" off:term : tactic => `(tactic|
  (refine IsField.of_getLsbD fun h v i _ => ?_
   simp only [LLHeader.signature, LLHeader.size, LLHeader.frame_type, LLHeader.flags, LLHeader.crc8,
     LLHeader.with_signature, LLHeader.with_size, LLHeader.with_type, LLHeader.with_flags, LLHeader.with_crc8,
     HLHeader.version, HLHeader.control_type, HLHeader.id, HLHeader.with_version, HLHeader.with_type, HLHeader.with_id,
     getLsbD_field, getLsbD_setField, getLsbD_ushiftRight',
     BitVec.getLsbD_and, BitVec.getLsbD_or, BitVec.getLsbD_xor, BitVec.getLsbD_shiftLeft]
   generalize h.getLsbD (i + $off) = a
   generalize h.getLsbD i = b
   generalize v.getLsbD (i - $off) = c
   revert i a b c
   decide +kernel))

namespace Gen
theorem LLHeader.signatureField : IsField LLHeader.signature LLHeader.with_signature 0 16 := by bitfield 0
theorem LLHeader.sizeField : IsField LLHeader.size LLHeader.with_size 16 16 := by bitfield 16
theorem LLHeader.typeField : IsField LLHeader.frame_type LLHeader.with_type 32 8 := by bitfield 32
theorem LLHeader.flagsField : IsField LLHeader.flags LLHeader.with_flags 40 8 := by bitfield 40
theorem LLHeader.crc8Field : IsField LLHeader.crc8 LLHeader.with_crc8 48 8 := by bitfield 48
theorem HLHeader.versionField : IsField HLHeader.version HLHeader.with_version 0 8 := by bitfield 0
theorem HLHeader.typeField : IsField HLHeader.control_type HLHeader.with_type 8 8 := by bitfield 8
theorem HLHeader.idField : IsField HLHeader.id HLHeader.with_id 16 16 := by bitfield 16

theorem LLHeader.with_flags_with_flags (h a b : BitVec 56) :
    LLHeader.with_flags (LLHeader.with_flags h a) b = LLHeader.with_flags h b := LLHeader.flagsField.set_set h a b
end Gen

theorem LL.sig_eq (h : LL) : LL.sig h = h.toNat % 2 ^ 16 := by
  rw [LL.sig, LLHeader.signatureField.toNat_get, Nat.pow_zero, Nat.div_one]
theorem LL.size_eq (h : LL) : LL.size h = h.toNat / 2 ^ 16 % 2 ^ 16 := LLHeader.sizeField.toNat_get h
theorem LL.ftype_eq (h : LL) : LL.ftype h = h.toNat / 2 ^ 32 % 2 ^ 8 := LLHeader.typeField.toNat_get h
theorem LL.flags_eq (h : LL) : LL.flags h = h.toNat / 2 ^ 40 % 2 ^ 8 := LLHeader.flagsField.toNat_get h
theorem LL.crc_eq (h : LL) : LL.crc h = h.toNat / 2 ^ 48 % 2 ^ 8 := LLHeader.crc8Field.toNat_get h

theorem IsField.toLE_get {w j k : Nat} {g : BitVec w → BitVec w} {s : BitVec w → BitVec w → BitVec w}
    (F : IsField g s (8 * j) (8 * k)) (x : BitVec w) : toLE k (g x).toNat = toLE k (x.toNat / 256 ^ j) := by
  rw [F.toNat_get, Nat.pow_mul, Nat.pow_mul, show 2 ^ 8 = 256 from rfl, toLE_mod]

theorem LL.bytes_eq (h : LL) :
    LL.bytes h = toLE 2 (LL.sig h) ++ toLE 2 (LL.size h) ++
      [UInt8.ofNat (LL.ftype h), UInt8.ofNat (LL.flags h), UInt8.ofNat (LL.crc h)] := by
  have e (x y z : Nat) : [UInt8.ofNat x, UInt8.ofNat y, UInt8.ofNat z] = toLE 1 x ++ toLE 1 y ++ toLE 1 z := by
    rw [toLE_one, toLE_one, toLE_one]; rfl
  rw [e, LL.sig, LL.size, LL.ftype, LL.flags, LL.crc,
    LLHeader.signatureField.toLE_get (j := 0) (k := 2), LLHeader.sizeField.toLE_get (j := 2) (k := 2),
    LLHeader.typeField.toLE_get (j := 4) (k := 1), LLHeader.flagsField.toLE_get (j := 5) (k := 1),
    LLHeader.crc8Field.toLE_get (j := 6) (k := 1),
    toLE_append, toLE_append, toLE_append, toLE_append, Nat.pow_zero, Nat.div_one, LL.bytes]

theorem LL.bytes_length (h : LL) : (LL.bytes h).length = 7 := toLE_length 7 _

theorem LL.ofBytes_bytes (h : LL) : LL.ofBytes (LL.bytes h ++ r) = h := by
  rw [LL.ofBytes, LL.bytes, List.take_left' (toLE_length 7 _), fromLE_toLE 7 _ h.isLt, BitVec.ofNat_toNat,
    BitVec.setWidth_eq]

theorem LL.bytes_ofBytes (bs : Bytes) (h7 : 7 ≤ bs.length) : LL.bytes (LL.ofBytes bs) = bs.take 7 := by
  have hlt := fromLE_lt (bs.take 7)
  rw [List.length_take_of_le h7] at hlt
  rw [LL.bytes, LL.ofBytes, BitVec.toNat_ofNat, Nat.mod_eq_of_lt hlt, toLE_fromLE_take bs 7 h7]

theorem HLH.bytes_length (h : HLH) : (HLH.bytes h).length = 4 := toLE_length 4 _

theorem HLH.ofBytes_bytes (h : HLH) (r : Bytes) : HLH.ofBytes (HLH.bytes h ++ r) = h := by
  rw [HLH.ofBytes, HLH.bytes, List.take_left' (toLE_length 4 _), fromLE_toLE 4 _ h.isLt, BitVec.ofNat_toNat,
    BitVec.setWidth_eq]

section
open LLHeader

@[simp] theorem LL.sig_withSig (h : LL) (v : Nat) : LL.sig (LL.withSig h v) = v % 65536 :=
  signatureField.toNat_get_set (by decide) h v
@[simp] theorem LL.size_withSize (h : LL) (v : Nat) : LL.size (LL.withSize h v) = v % 65536 :=
  sizeField.toNat_get_set (by decide) h v
@[simp] theorem LL.ftype_withType (h : LL) (v : Nat) : LL.ftype (LL.withType h v) = v % 256 :=
  typeField.toNat_get_set (by decide) h v
@[simp] theorem LL.flags_withFlags (h : LL) (v : Nat) : LL.flags (LL.withFlags h v) = v % 256 :=
  flagsField.toNat_get_set (by decide) h v
@[simp] theorem LL.crc_withCrc (h : LL) (v : Nat) : LL.crc (LL.withCrc h v) = v % 256 :=
  crc8Field.toNat_get_set (by decide) h v

@[simp] theorem LL.sig_withSize (h : LL) (v : Nat) : LL.sig (LL.withSize h v) = LL.sig h :=
  signatureField.toNat_get_set_of_disjoint sizeField (by decide) h _
@[simp] theorem LL.sig_withType (h : LL) (v : Nat) : LL.sig (LL.withType h v) = LL.sig h :=
  signatureField.toNat_get_set_of_disjoint typeField (by decide) h _
@[simp] theorem LL.sig_withFlags (h : LL) (v : Nat) : LL.sig (LL.withFlags h v) = LL.sig h :=
  signatureField.toNat_get_set_of_disjoint flagsField (by decide) h _
@[simp] theorem LL.sig_withCrc (h : LL) (v : Nat) : LL.sig (LL.withCrc h v) = LL.sig h :=
  signatureField.toNat_get_set_of_disjoint crc8Field (by decide) h _
@[simp] theorem LL.size_withSig (h : LL) (v : Nat) : LL.size (LL.withSig h v) = LL.size h :=
  sizeField.toNat_get_set_of_disjoint signatureField (by decide) h _
@[simp] theorem LL.size_withType (h : LL) (v : Nat) : LL.size (LL.withType h v) = LL.size h :=
  sizeField.toNat_get_set_of_disjoint typeField (by decide) h _
@[simp] theorem LL.size_withFlags (h : LL) (v : Nat) : LL.size (LL.withFlags h v) = LL.size h :=
  sizeField.toNat_get_set_of_disjoint flagsField (by decide) h _
@[simp] theorem LL.size_withCrc (h : LL) (v : Nat) : LL.size (LL.withCrc h v) = LL.size h :=
  sizeField.toNat_get_set_of_disjoint crc8Field (by decide) h _
@[simp] theorem LL.ftype_withSig (h : LL) (v : Nat) : LL.ftype (LL.withSig h v) = LL.ftype h :=
  typeField.toNat_get_set_of_disjoint signatureField (by decide) h _
@[simp] theorem LL.ftype_withSize (h : LL) (v : Nat) : LL.ftype (LL.withSize h v) = LL.ftype h :=
  typeField.toNat_get_set_of_disjoint sizeField (by decide) h _
@[simp] theorem LL.ftype_withFlags (h : LL) (v : Nat) : LL.ftype (LL.withFlags h v) = LL.ftype h :=
  typeField.toNat_get_set_of_disjoint flagsField (by decide) h _
@[simp] theorem LL.ftype_withCrc (h : LL) (v : Nat) : LL.ftype (LL.withCrc h v) = LL.ftype h :=
  typeField.toNat_get_set_of_disjoint crc8Field (by decide) h _
@[simp] theorem LL.flags_withSig (h : LL) (v : Nat) : LL.flags (LL.withSig h v) = LL.flags h :=
  flagsField.toNat_get_set_of_disjoint signatureField (by decide) h _
@[simp] theorem LL.flags_withSize (h : LL) (v : Nat) : LL.flags (LL.withSize h v) = LL.flags h :=
  flagsField.toNat_get_set_of_disjoint sizeField (by decide) h _
@[simp] theorem LL.flags_withType (h : LL) (v : Nat) : LL.flags (LL.withType h v) = LL.flags h :=
  flagsField.toNat_get_set_of_disjoint typeField (by decide) h _
@[simp] theorem LL.flags_withCrc (h : LL) (v : Nat) : LL.flags (LL.withCrc h v) = LL.flags h :=
  flagsField.toNat_get_set_of_disjoint crc8Field (by decide) h _
@[simp] theorem LL.crc_withSig (h : LL) (v : Nat) : LL.crc (LL.withSig h v) = LL.crc h :=
  crc8Field.toNat_get_set_of_disjoint signatureField (by decide) h _
@[simp] theorem LL.crc_withSize (h : LL) (v : Nat) : LL.crc (LL.withSize h v) = LL.crc h :=
  crc8Field.toNat_get_set_of_disjoint sizeField (by decide) h _
@[simp] theorem LL.crc_withType (h : LL) (v : Nat) : LL.crc (LL.withType h v) = LL.crc h :=
  crc8Field.toNat_get_set_of_disjoint typeField (by decide) h _
@[simp] theorem LL.crc_withFlags (h : LL) (v : Nat) : LL.crc (LL.withFlags h v) = LL.crc h :=
  crc8Field.toNat_get_set_of_disjoint flagsField (by decide) h _
end

theorem LL.withFlags_withFlags (h : LL) (a b : Nat) : LL.withFlags (LL.withFlags h a) b = LL.withFlags h b :=
  LLHeader.with_flags_with_flags h _ _

theorem LL.withFlags_flags (h : LL) : LL.withFlags h (LL.flags h) = h := by
  rw [LL.withFlags, LL.flags, BitVec.ofNat_toNat, BitVec.setWidth_eq, LLHeader.flagsField.set_get]

theorem LL.zero_fields : LL.sig 0#56 = 0 ∧ LL.size 0#56 = 0 ∧ LL.ftype 0#56 = 0 ∧ LL.flags 0#56 = 0 ∧ LL.crc 0#56 = 0 := by
  decide

theorem LL.crcOf_eq (h : LL) :
    LL.crcOf h = (Crc.crc8B (toLE 2 (LL.size h) ++ [UInt8.ofNat (LL.ftype h), UInt8.ofNat (LL.flags h)])).toNat := by
  simp only [LL.crcOf, LL.bytes_eq, slice, toLE]
  rfl

theorem LL.crcOf_withCrc (h : LL) (v : Nat) : LL.crcOf (LL.withCrc h v) = LL.crcOf h := by
  rw [LL.crcOf_eq, LL.crcOf_eq, LL.size_withCrc, LL.ftype_withCrc, LL.flags_withCrc]

end Zboss
