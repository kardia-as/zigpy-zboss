import ZbossModel.Scanner
/-! Chunk independence of the generic resynchronising scanner. -/
namespace Zboss.Rx

theorem skip_length_le (l : Bytes) : (skip l).length ≤ l.length := by
  induction l with
  | nil => simp [skip]
  | cons x t ih => simp only [skip]; split <;> simp <;> omega

theorem canon_skip (l : Bytes) : canon (skip l) = true := by
  induction l with
  | nil => simp [skip, canon]
  | cons x t ih => simp only [skip]; split <;> simp_all

theorem skip_of_canon {l : Bytes} (h : canon l = true) : skip l = l := by
  cases l with
  | nil => rfl
  | cons x t => simp [skip, h]

theorem skip_of_not_canon {x : UInt8} {t : Bytes} (h : canon (x :: t) = false) : skip (x :: t) = skip t := by
  simp [skip, h]

theorem skip_skip (l : Bytes) : skip (skip l) = skip l := skip_of_canon (canon_skip l)

theorem canon_append_of_not {x : UInt8} {t : Bytes} (b : Bytes) (h : canon (x :: t) = false) :
    canon (x :: (t ++ b)) = false := by
  cases t with
  | nil => simp [canon] at h; cases b <;> simp [canon, h]
  | cons y t' => simpa [canon] using h

theorem canon_of_startsSig {l : Bytes} (h : startsSig l = true) : canon l = true := by
  match l, h with
  | x :: y :: t, h => simpa [canon, startsSig] using h

theorem skip_append (a b : Bytes) : skip (a ++ b) = skip (skip a ++ b) := by
  induction a with
  | nil => simp [skip]
  | cons x t ih =>
    cases hc : canon (x :: t) with
    | true => rw [skip_of_canon hc]
    | false => rw [skip_of_not_canon hc, ← ih, List.cons_append, skip_of_not_canon (canon_append_of_not b hc)]

theorem resync_length_lt (buf : Bytes) (h : 0 < buf.length) : (resync buf).length < buf.length := by
  unfold resync
  have := skip_length_le buf.tail
  simp at this; omega

variable {α : Type} (S : Scanner α)

theorem invalid_len {a : Bytes} (h : S.tryFrame a = .invalid) : 7 ≤ a.length := by
  rcases Nat.lt_or_ge a.length 7 with hl | hl
  · rw [S.short_of_lt _ hl] at h; cases h
  · exact hl

theorem resync_lt {a : Bytes} (h : S.tryFrame a = .invalid) : (resync a).length < a.length :=
  resync_length_lt a (by have := invalid_len S h; omega)

theorem drop_lt {a : Bytes} {f : α} {n : Nat} (h : S.tryFrame a = .ok f n) : (a.drop n).length < a.length := by
  have := S.ok_le _ _ _ h
  rw [List.length_drop]; omega

theorem extract_fuel (f1 f2 : Nat) (buf : Bytes) (h1 : buf.length < f1) (h2 : buf.length < f2) :
    extract S.tryFrame f1 buf = extract S.tryFrame f2 buf := by
  induction f1 generalizing f2 buf with
  | zero => omega
  | succ f1 ih =>
    cases f2 with
    | zero => omega
    | succ f2 =>
      simp only [extract, extractWith]
      have lt {m k : Nat} (hm : m < buf.length) (hk : buf.length < k + 1) : m < k :=
        Nat.lt_of_lt_of_le hm (Nat.le_of_lt_succ hk)
      cases hT : S.tryFrame buf with
      | short => rfl
      | raised => rfl
      | invalid => exact ih _ _ (lt (resync_lt S hT) h1) (lt (resync_lt S hT) h2)
      | ok f n =>
        exact congrArg (fun r => (f :: r.1, r.2)) (ih f2 (buf.drop n) (lt (drop_lt S hT) h1) (lt (drop_lt S hT) h2))

theorem run_eq (buf : Bytes) :
    run S.tryFrame buf = match S.tryFrame buf with
      | .short => ([], buf)
      | .raised => ([], buf)
      | .invalid => run S.tryFrame (resync buf)
      | .ok f n => (f :: (run S.tryFrame (buf.drop n)).1, (run S.tryFrame (buf.drop n)).2) := by
  rw [run, runWith, extractWith]
  cases hT : S.tryFrame buf with
  | short => rfl
  | raised => rfl
  | invalid => exact extract_fuel S _ _ _ (resync_lt S hT) (Nat.lt_succ_self _)
  | ok f n =>
    exact congrArg (fun r => (f :: r.1, r.2))
      (extract_fuel S _ ((buf.drop n).length + 1) (buf.drop n) (drop_lt S hT) (Nat.lt_succ_self _))

theorem run_short {b : Bytes} (h : S.tryFrame b = .short) : run S.tryFrame b = ([], b) := by rw [run_eq, h]

theorem run_invalid {b : Bytes} (h : S.tryFrame b = .invalid) : run S.tryFrame b = run S.tryFrame (resync b) := by
  rw [run_eq, h]

theorem run_ok {b : Bytes} {f : α} {n : Nat} (h : S.tryFrame b = .ok f n) :
    run S.tryFrame b = (f :: (run S.tryFrame (b.drop n)).1, (run S.tryFrame (b.drop n)).2) := by
  rw [run_eq, h]

/-- same deliveries, remainders equal up to pending garbage -/
def Rel (x y : List α × Bytes) : Prop := x.1 = y.1 ∧ skip x.2 = skip y.2

theorem Rel.refl (x : List α × Bytes) : Rel x x := ⟨rfl, rfl⟩
theorem Rel.symm {x y : List α × Bytes} (h : Rel x y) : Rel y x := ⟨h.1.symm, h.2.symm⟩
theorem Rel.trans {x y z : List α × Bytes} (h1 : Rel x y) (h2 : Rel y z) : Rel x z :=
  ⟨h1.1.trans h2.1, h1.2.trans h2.2⟩

theorem run_skip (l : Bytes) : Rel (run S.tryFrame l) (run S.tryFrame (skip l)) := by
  induction l with
  | nil => exact Rel.refl _
  | cons x t ih =>
    cases hc : canon (x :: t) with
    | true => rw [skip_of_canon hc]; exact Rel.refl _
    | false =>
      rw [skip_of_not_canon hc]
      rcases Nat.lt_or_ge (x :: t).length 7 with hlen | hlen
      · -- both runs wait; what they keep has the same normal form
        have hlen2 : (skip t).length < 7 := by
          have := skip_length_le t; simp at hlen; omega
        rw [run_short S (S.short_of_lt _ hlen), run_short S (S.short_of_lt _ hlen2)]
        exact ⟨rfl, by rw [skip_of_not_canon hc, skip_skip]⟩
      · -- no marker in front: the first step of the run on `x :: t` is the resynchronisation to `skip t`
        rw [run_invalid S (S.invalid_of_nosig _ hlen (Bool.eq_false_iff.mpr fun hs => by
          rw [canon_of_startsSig hs] at hc; cases hc))]
        exact Rel.refl _

theorem run_congr (r r' c : Bytes) (h : skip r = skip r') :
    Rel (run S.tryFrame (r ++ c)) (run S.tryFrame (r' ++ c)) := by
  have e1 := run_skip S (r ++ c)
  have e2 := run_skip S (r' ++ c)
  rw [skip_append, h, ← skip_append] at e1
  exact Rel.trans e1 (Rel.symm e2)

theorem run_induction {P : Bytes → Prop} (b : Bytes)
    (short : ∀ b, S.tryFrame b = .short → P b)
    (invalid : ∀ b, S.tryFrame b = .invalid → P (resync b) → P b)
    (ok : ∀ b f n, S.tryFrame b = .ok f n → P (b.drop n) → P b) : P b := by
  induction hn : b.length using Nat.strongRecOn generalizing b with
  | _ n ih =>
    cases hT : S.tryFrame b with
    | short => exact short b hT
    | raised => exact absurd hT (S.never_raises b)
    | invalid => exact invalid b hT (ih _ (hn ▸ resync_lt S hT) _ rfl)
    | ok f k => exact ok b f k hT (ih _ (hn ▸ drop_lt S hT) _ rfl)

theorem pending_is_short (b : Bytes) : S.tryFrame (run S.tryFrame b).2 = .short := by
  induction b using run_induction S with
  | short b hT => rw [run_short S hT]; exact hT
  | invalid b hT ih => rw [run_invalid S hT]; exact ih
  | ok b f n hT ih => rw [run_ok S hT]; exact ih

theorem run_append (a b : Bytes) :
    Rel (run S.tryFrame (a ++ b))
      ((run S.tryFrame a).1 ++ (run S.tryFrame ((run S.tryFrame a).2 ++ b)).1,
        (run S.tryFrame ((run S.tryFrame a).2 ++ b)).2) := by
  induction a using run_induction S with
  | short a hT => rw [run_short S hT]; exact Rel.refl _
  | invalid a hT ih =>
    -- both runs resynchronise; `resync (a ++ b)` and `resync a ++ b` have the same normal form
    have hres : skip (resync (a ++ b)) = skip (resync a ++ b) := by
      cases a with
      | nil => have := invalid_len S hT; simp at this
      | cons x t => rw [resync, resync, List.cons_append, List.tail_cons, List.tail_cons, skip_skip, ← skip_append]
    rw [run_invalid S hT, run_invalid S (S.invalid_ext a b hT)]
    exact Rel.trans (Rel.trans (run_skip S _) (hres ▸ Rel.symm (run_skip S _))) ih
  | ok a f k hT ih =>
    rw [run_ok S hT, run_ok S (S.ok_ext a b f k hT), List.drop_append_of_le_length (S.ok_le _ _ _ hT).2]
    exact ⟨by rw [List.cons_append, ih.1], ih.2⟩

theorem feed_rel (st : List α × Bytes) (pre c : Bytes) (h : Rel st (run S.tryFrame pre)) :
    Rel (feed S.tryFrame st c) (run S.tryFrame (pre ++ c)) := by
  have e1 := run_append S pre c
  have e2 := run_congr S st.2 (run S.tryFrame pre).2 c h.2
  refine Rel.trans ?_ (Rel.symm e1)
  exact ⟨by simp [feed, h.1, e2.1], e2.2⟩

theorem chunking_prefix (chunks : List Bytes) (st : List α × Bytes) (pre : Bytes)
    (h : Rel st (run S.tryFrame pre)) :
    Rel (chunks.foldl (feed S.tryFrame) st) (run S.tryFrame (pre ++ chunks.flatten)) := by
  induction chunks generalizing st pre with
  | nil => simpa using h
  | cons c cs ih =>
    have := ih (feed S.tryFrame st c) (pre ++ c) (feed_rel S st pre c h)
    simpa [List.append_assoc] using this

/-- chunk independence: any way of cutting a stream delivers what the whole stream delivers -/
theorem chunking (chunks : List Bytes) :
    Rel (chunks.foldl (feed S.tryFrame) ([], [])) (run S.tryFrame chunks.flatten) := by
  have h0 : Rel (([], []) : List α × Bytes) (run S.tryFrame []) := by
    rw [run_short S (S.short_of_lt [] (Nat.zero_lt_succ 6))]; exact Rel.refl _
  simpa using chunking_prefix S chunks ([], []) [] h0

end Zboss.Rx
