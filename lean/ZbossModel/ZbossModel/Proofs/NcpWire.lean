import ZbossModel.Proofs.RxWire
/-! The reference NCP on the bytes the host writes for one message, with acknowledgement frames interleaved. -/
namespace Zboss.Reasm
open Zboss.Rx Zboss

theorem tryFrame_ack (seq : Fin 4) (rt : Bool) (r : Bytes) :
    tryFrame ((Frame.ack seq.val rt).serialize ++ r) = .ok (Frame.ack seq.val rt) 7 := by
  rw [decodes_ack seq.val rt r, (ack_roundtrip seq.val rt []).1]; rfl

/-- `ws'` is `ws` with acknowledgement frames (the host's ACKs for whatever the NCP sent meanwhile) inserted anywhere -/
inductive WithAcks : List Frame → List Frame → Prop
  | nil : WithAcks [] []
  | frame (w : Frame) {ws ws' : List Frame} : WithAcks ws ws' → WithAcks (w :: ws) (w :: ws')
  | ack (seq : Fin 4) (rt : Bool) {ws ws' : List Frame} : WithAcks ws ws' → WithAcks ws (Frame.ack seq.val rt :: ws')

theorem withAcks (ws ws' : List Frame) (h : WithAcks ws ws') (hd : ∀ w ∈ ws, Decodes w ∧ handedUp w = true) :
    (∀ w ∈ ws', Decodes w) ∧ ws'.filter handedUp = ws := by
  induction h with
  | nil => exact ⟨fun _ hw => (List.not_mem_nil hw).elim, rfl⟩
  | frame w _ ih =>
    obtain ⟨i1, i2⟩ := ih fun x hx => hd x (List.mem_cons_of_mem _ hx)
    refine ⟨fun x hx => ?_, by rw [List.filter_cons, if_pos (hd w List.mem_cons_self).2, i2]⟩
    rcases List.mem_cons.mp hx with rfl | hx
    · exact (hd _ List.mem_cons_self).1
    · exact i1 x hx
  | ack s b _ ih =>
    obtain ⟨i1, i2⟩ := ih hd
    refine ⟨fun x hx => ?_, by
      rw [List.filter_cons, if_neg (by simp [handedUp, isAck, (ack_fields s.val b).2.2]), i2]⟩
    rcases List.mem_cons.mp hx with rfl | hx
    · exact decodes_ack s.val b
    · exact i1 x hx

end Zboss.Reasm
