import ZbossModel.Frag
/-! The shape of the fragment train the index-based fragmenter produces, and the slice algebra behind
    "the bodies concatenate to the message". -/
namespace Zboss.Frag
open Gen

theorem range_succ_succ (n : Nat) :
    List.range (n + 2) = 0 :: ((List.range n).map (· + 1) ++ [n + 1]) := by
  rw [List.range_succ_eq_map, List.range_succ]
  simp

theorem windows_append_drop (l : List α) (a s k : Nat) (h : a + s * k ≤ l.length) :
    ((List.range k).map fun j => slice l (a + s * j) (a + s * j + s)).flatten ++ l.drop (a + s * k) = l.drop a := by
  induction k with
  | zero => simp
  | succ k ih =>
    rw [Nat.mul_succ, ← Nat.add_assoc] at h ⊢
    rw [List.range_succ, List.map_append, List.flatten_append, List.append_assoc, List.map_singleton,
      List.flatten_singleton, slice_append_drop l _ s h]
    exact ih (Nat.le_of_add_right_le h)

theorem ceilDiv_eq_succ_iff {a s c : Nat} (hs : 0 < s) : ceilDiv a s = c + 1 ↔ c * s < a ∧ a ≤ c * s + s := by
  unfold ceilDiv
  rw [Nat.div_eq_iff hs, Nat.succ_mul]
  omega

/-- Python's `a % s or s` is the remainder counted in `1 ..= s` -/
theorem mod_or_eq {a s c : Nat} (h1 : c * s < a) (h2 : a ≤ c * s + s) :
    (if a % s = 0 then s else a % s) = a - c * s := by
  obtain ⟨r, rfl⟩ := Nat.exists_eq_add_of_lt h1
  rw [Nat.add_assoc] at h2 ⊢
  rw [Nat.add_sub_cancel_left, Nat.mul_add_mod_self_right]
  rcases Nat.eq_or_lt_of_le (Nat.le_of_add_le_add_left h2) with h | h
  · rw [h, Nat.mod_self, if_pos rfl]
  · rw [Nat.mod_eq_of_lt h, if_neg (Nat.succ_ne_zero r)]

theorem idx_facts (total : Nat) (n : Nat) (hc : ceilDiv total Gen.bodyMax = n + 2) :
    4 ≤ firstSize total ∧ firstSize total ≤ 247 ∧ nIdx total = n + 1 ∧
    firstSize total + 247 * n < total ∧ total ≤ firstSize total + 247 * n + 247 := by
  -- with both round-up divisions and the remainder put as bounds, what is left is linear
  obtain ⟨h1, h2⟩ := (ceilDiv_eq_succ_iff (by decide)).1 hc
  rw [nIdx, ceilDiv_eq_succ_iff (by decide), firstSize, mod_or_eq h1 h2]
  simp only [bodyMax] at *
  omega

theorem train_bounds {k s n L : Nat} (hlo : k + s * n < L) (hhi : L ≤ k + s * n + s) :
    (∀ j, j < n → k + s * j + s ≤ L) ∧ 0 < L - (k + s * n) ∧ L - (k + s * n) ≤ s := by
  refine ⟨fun j hj => ?_, Nat.sub_pos_of_lt hlo, Nat.sub_le_iff_le_add'.2 hhi⟩
  have := Nat.mul_le_mul_left s (show j + 1 ≤ n from hj)
  rw [Nat.mul_succ] at this
  omega

/-- a body that does not fit one frame is cut into a first piece (the remainder, at least the 4 header bytes),
    `n` full windows and a non-empty rest -/
theorem fragments_of_big (whole : Frame) (p : HLPacket) (hbig : 247 < p.body.length) :
    ∃ first n, 4 ≤ first ∧ first ≤ 247 ∧ first + 247 * n < p.body.length ∧
      p.body.length ≤ first + 247 * n + 247 ∧ count p = n + 2 ∧
      fragments whole p = firstFrag p first ::
        ((List.range n).map (fun j => midFrag p.body (first + 247 * j)) ++ [lastFrag (p.body.drop (first + 247 * n))]) := by
  obtain ⟨n, hn⟩ : ∃ n, count p = n + 2 :=
    Nat.exists_eq_add_of_le' ((Nat.le_div_iff_mul_le (by decide)).2 (show 2 * 247 ≤ p.body.length + 247 - 1 by omega))
  obtain ⟨f4, f247, hidx, hlo, hhi⟩ := idx_facts p.body.length n hn
  refine ⟨firstSize p.body.length, n, f4, f247, hlo, hhi, hn, ?_⟩
  unfold fragments
  simp only [hn, show ¬ n + 2 ≤ 1 by omega, if_false, range_succ_succ, List.map_cons, List.map_append, List.map_map,
    List.map_nil, if_true, hidx, bodyMax]
  congr 2
  · apply List.map_congr_left
    intro j hj
    have hj' : j < n := by simpa using hj
    simp [show ¬ j = n by omega]

end Zboss.Frag
