import ZbossModel.Proofs.HostView
/-! In every state the event loop can be in, the list of registered response listeners *is* the list of the pending
    response futures, in the order in which the requests were issued (`TableV`).

    The two lists change in step: the end of a task and the three effects of shape `Change` filter both by the same
    test - a listener goes exactly when its future stops being pending - and a new request appends the same entry to
    both; nothing else touches either (`synced_micro`, `synced_eff`).  So every relation between the two lists that
    survives a common filter and a common new entry is an invariant (`Lockstep`): equality is one, "every pending future
    has its listener" (`CoveredV`, `Proofs/HostCover.lean`) another. -/
namespace Zboss.Host

/-- the response future of this request is still pending -/
def pendingC (c : Core) : Bool := c.phase != .done && c.got == .nothing

theorem pendingC_iff {c : Core} : pendingC c = true ↔ c.phase ≠ .done ∧ c.got = .nothing := by
  simp [pendingC]

/-- the listeners that the pending response futures have registered, in issue order -/
def waiters (cs : List Core) : List (Nat × Nat) := (cs.filter pendingC).map fun c => (c.id, c.key)

theorem mem_waiters {cs : List Core} {l : Nat × Nat} :
    l ∈ waiters cs ↔ ∃ c ∈ cs, pendingC c = true ∧ (c.id, c.key) = l := by
  simp only [waiters, List.mem_map, List.mem_filter, and_assoc]

/-- **the listener table is the list of the pending response futures** -/
def TableV (v : View) : Prop := v.listeners = waiters v.cores

/-- The list fact behind every case: `l` is read as cores before (`f`) and after (`f'`) a change that keeps ids and
    commands, and after which a future is pending exactly if it was pending before and `q` holds of its listener. -/
theorem waiters_filter {α : Type} (l : List α) (f f' : α → Core) (q : Nat × Nat → Bool)
    (h : ∀ x ∈ l, pendingC (f' x) = (pendingC (f x) && q ((f x).id, (f x).key)) ∧
      (f' x).id = (f x).id ∧ (f' x).key = (f x).key) :
    waiters (l.map f') = (waiters (l.map f)).filter q := by
  -- both sides are a filter of `l` followed by a map: the tests agree on `l`, and so do the entries
  let k : Core → Nat × Nat := fun c => (c.id, c.key)
  calc waiters (l.map f')
      = (l.filter (pendingC ∘ f')).map (k ∘ f') := by rw [waiters, List.filter_map, List.map_map]
    _ = (l.filter fun x => q (k (f x)) && pendingC (f x)).map (k ∘ f') :=
        congrArg _ (List.filter_congr fun x hx => (h x hx).1.trans (Bool.and_comm ..))
    _ = (l.filter fun x => q (k (f x)) && pendingC (f x)).map (k ∘ f) :=
        List.map_congr_left fun x hx => by
          obtain ⟨_, hid, hkey⟩ := h x (List.mem_filter.mp hx).1
          exact Prod.ext hid hkey
    _ = (waiters (l.map f)).filter q := by
        rw [waiters, List.filter_map, List.filter_filter, List.filter_map, List.map_map]; rfl

theorem waiters_upd {v : View} {i : Nat} (g : Core → Core)
    (hg : ∀ c ∈ v.cores, c.id = i → pendingC (g c) = pendingC c ∧ (g c).id = c.id ∧ (g c).key = c.key) :
    waiters (v.upd i g).cores = waiters v.cores := by
  have := waiters_filter v.cores id (fun c => if (c.id == i) = true then g c else c) (fun _ => true) fun c hc => by
    show pendingC (if (c.id == i) = true then g c else c) = (pendingC c && true) ∧ _
    rw [Bool.and_true]
    split
    · next hi => exact hg c hc (by simpa using hi)
    · exact ⟨rfl, rfl, rfl⟩
  rwa [List.map_id, List.filter_eq_self.mpr fun _ _ => rfl] at this

theorem waiters_fin (v : View) (i : Nat) : waiters (v.upd i toDone).cores = (waiters v.cores).filter (·.1 != i) := by
  have := waiters_filter v.cores id (fun c => if (c.id == i) = true then toDone c else c) (·.1 != i) fun c _ => by
    show pendingC (if (c.id == i) = true then toDone c else c) = (pendingC c && c.id != i) ∧ _
    split
    · next hi => exact ⟨by rw [show (c.id != i) = false by simpa using hi, Bool.and_false]; rfl, rfl, rfl⟩
    · next hi => exact ⟨by rw [show (c.id != i) = true by simpa using hi, Bool.and_true], rfl, rfl⟩
  rwa [List.map_id] at this

theorem allowed_keeps (t : Bool) (c0 : Core) (g : Core → Core) (ha : Allowed t c0 g) :
    pendingC (g c0) = pendingC c0 ∧ (g c0).id = c0.id ∧ (g c0).key = c0.key := by
  rcases ha with ⟨hp, rfl⟩ | ⟨hp, rfl⟩ | ⟨hp, rfl⟩ | ⟨hp, _, rfl⟩ | ⟨hp, _, rfl⟩ | ⟨hp, _, rfl⟩ <;>
    exact ⟨by simp only [pendingC, hp]; rfl, rfl, rfl⟩

theorem waiters_change {a : St} {g : Req → Req} {keep : Nat × Nat → Bool} (hg : ∀ r, Passive r (g r))
    (hkeep : ∀ r, r.got = .nothing → ((g r).got = .nothing ↔ keep (r.id, r.key) = true)) :
    waiters ((a.reqs.map g).map core) = (waiters (a.reqs.map core)).filter keep := by
  rw [List.map_map]
  refine waiters_filter a.reqs core (core ∘ g) keep fun r _ => ⟨Bool.eq_iff_iff.mpr ?_, (hg r).id_eq, (hg r).key⟩
  rw [Bool.and_eq_true, pendingC_iff, pendingC_iff]
  show (g r).phase ≠ .done ∧ (g r).got = .nothing ↔ (r.phase ≠ .done ∧ r.got = .nothing) ∧ keep (r.id, r.key) = true
  -- a passive change neither ends a request nor makes a future pending again
  constructor
  · rintro ⟨hp, hgot⟩
    have h0 := (hg r).got_nothing hgot
    exact ⟨⟨mt (hg r).done_iff.mpr hp, h0⟩, (hkeep r h0).mp hgot⟩
  · rintro ⟨⟨hp, h0⟩, hk⟩
    exact ⟨mt (hg r).done_iff.mp hp, (hkeep r h0).mpr hk⟩

/-- a relation between the listener table and the list of pending futures that survives when both are filtered by the same
    test, and when both get the same new entry -/
structure Lockstep (R : List (Nat × Nat) → List (Nat × Nat) → Prop) : Prop where
  filter : ∀ q L P, R L P → R (L.filter q) (P.filter q)
  append : ∀ x L P, R L P → R (L ++ [x]) (P ++ [x])

def Synced (R : List (Nat × Nat) → List (Nat × Nat) → Prop) (v : View) : Prop := R v.listeners (waiters v.cores)

variable {R : List (Nat × Nat) → List (Nat × Nat) → Prop}

theorem synced_fin (hR : Lockstep R) {v : View} (i : Nat) (o : Outcome) (h : Synced R v) :
    Synced R (((v.upd i toDone).dropL i).emit (.done i o)) := by
  show R (v.listeners.filter (·.1 != i)) (waiters (v.upd i toDone).cores)
  rw [waiters_fin]
  exact hR.filter _ _ _ h

theorem synced_micro (hR : Lockstep R) (v v' : View) (i : Nat) (c0 : Core) (hu : Uniq v.cores) (h0 : c0 ∈ v.cores)
    (hi : c0.id = i) (hs : MicroStep v i c0 v') (h : Synced R v) : Synced R v' := by
  have upd : ∀ g : Core → Core, pendingC (g c0) = pendingC c0 ∧ (g c0).id = c0.id ∧ (g c0).key = c0.key →
      Synced R (v.upd i g) := fun g hg => by
    show R v.listeners (waiters (v.upd i g).cores)
    rw [waiters_upd g fun c hc hci => hu.id c hc c0 h0 (hci.trans hi.symm) ▸ hg]
    exact h
  cases hs with
  | stay => exact h
  | move g ha => exact upd g (allowed_keeps _ c0 g ha)
  | write s hp _ => exact upd _ ⟨by simp only [pendingC, hp]; rfl, rfl, rfl⟩
  | fin o _ => exact synced_fin hR i o h

theorem synced_eff (hR : Lockstep R) (a b : St) (he : Eff a b) (h : Synced R (view a)) : Synced R (view b) := by
  have change : ∀ {b}, Change a b → Synced R (view b) := by
    rintro _ ⟨g, keep, L, _, hg, rfl, _, hkeep, _⟩
    show R (a.listeners.filter keep) (waiters ((a.reqs.map g).map core))
    rw [waiters_change hg hkeep]
    exact hR.filter _ _ _ h
  cases he with
  | regs | emit | refuse | closeUart | lost => exact h
  | add id key blocking nfrags timeout =>
    -- the future of a new request is pending
    show R (a.listeners ++ [(id, key)]) (waiters ((a.reqs ++ [_]).map core))
    rw [List.map_append, waiters, List.filter_append, List.map_append]
    exact hR.append (id, key) _ _ h
  | ackEnd c hc => exact change (.ackEnd a c hc)
  | answer i => exact change (.answer a i)
  | cancelAll => exact change (.cancelAll a)
  | unwind i o => rw [view_unwind]; exact synced_fin hR i o h

theorem synced_pre (hR : Lockstep R) (st : St) (e : Ev) (h : Synced R (view st)) : Synced R (view (pre st e).1) :=
  pre_ind (P := fun s => Synced R (view s)) (synced_eff hR) (fun _ _ h => h) st e h

theorem lockstep_eq : Lockstep Eq := ⟨fun _ _ _ h => h ▸ rfl, fun _ _ _ h => h ▸ rfl⟩

theorem table_micro (v v' : View) (i : Nat) (c0 : Core) (hu : Uniq v.cores) (h0 : c0 ∈ v.cores) (hi : c0.id = i)
    (hs : MicroStep v i c0 v') (h : TableV v) : TableV v' :=
  synced_micro lockstep_eq v v' i c0 hu h0 hi hs h

theorem table_pre (st : St) (e : Ev) (h : TableV (view st)) : TableV (view (pre st e).1) :=
  synced_pre lockstep_eq st e h

theorem table_reachable (evs : List Ev) : TableV (view (runEvents {} evs).1) :=
  view_reachable table_micro rfl (fun _ e h => table_pre _ e h) evs

theorem TableV.mem_iff {v : View} (h : TableV v) {l : Nat × Nat} :
    l ∈ v.listeners ↔ ∃ c ∈ v.cores, pendingC c = true ∧ (c.id, c.key) = l := by
  rw [show v.listeners = _ from h]; exact mem_waiters

theorem nr_of_table {st : St} (h : TableV (view st)) : NoResidue st := by
  intro l hl
  obtain ⟨c, hc, hp, rfl⟩ := h.mem_iff.mp hl
  obtain ⟨r, hr, rfl⟩ := List.mem_map.mp hc
  exact ⟨r, hr, rfl, (pendingC_iff.mp hp).1⟩

theorem listeners_nodup {st : St} (hinv : Inv2 st) (h : TableV (view st)) : (st.listeners.map (·.1)).Nodup := by
  rw [show st.listeners = _ from h, waiters, List.map_map]
  exact ((view_ids st) ▸ hinv.1).sublist (List.filter_sublist.map _)

/-- **who gets the response**: if request `r` is running, has not been answered, and every other request for its
    command has ended, then the listener a response for that command resolves is `r`'s -/
theorem sole_waiter_of_table {st : St} (ht : TableV (view st)) (r : Req) (hr : r ∈ st.reqs) (hp : r.phase ≠ .done)
    (hg : r.got = .nothing) (hsole : ∀ r' ∈ st.reqs, r'.key = r.key → r'.id ≠ r.id → r'.phase = .done) :
    st.listeners.find? (fun l => l.2 == r.key) = some (r.id, r.key) := by
  cases hf : st.listeners.find? (fun l => l.2 == r.key) with
  | none =>
    -- the listener of `r` is in the table
    exact absurd (beq_self_eq_true r.key) (List.find?_eq_none.mp hf _
      (ht.mem_iff.mpr ⟨core r, List.mem_map_of_mem hr, pendingC_iff.mpr ⟨hp, hg⟩, rfl⟩))
  | some l =>
    -- the listener found is that of a pending future for this command, which only `r` has
    obtain ⟨c, hc, hpc, rfl⟩ := ht.mem_iff.mp (List.mem_of_find?_eq_some hf)
    obtain ⟨r', hr', rfl⟩ := List.mem_map.mp hc
    have hk : r'.key = r.key := beq_iff_eq.mp (List.find?_some hf :)
    have hid : r'.id = r.id := Decidable.byContradiction fun hne => (pendingC_iff.mp hpc).1 (hsole r' hr' hk hne)
    show some (r'.id, r'.key) = _
    rw [hid, hk]

end Zboss.Host
