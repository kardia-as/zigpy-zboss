import ZbossModel.Proofs.RxLog
import ZbossModel.Proofs.Located
/-! The declared extent of a checksum-valid header is an `Extent` of the concrete receiver: the positioned-scan
    theorems of `Proofs/Located.lean` apply, to the parse of a stream and to what a session hands up. -/
namespace Zboss.Rx

def zbossExtent : Extent zbossScanner where
  ext := extent
  ext_of_short := fun b hs h7 => ((tryFrame_short_iff b).mp hs).resolve_left (Nat.not_lt.mpr h7)
  ext_of_ok := fun b f n h => by obtain ⟨e, he, hn, _⟩ := extent_ok b f n h; exact ⟨e, he, hn⟩

/-- prompt, from every state between two reads: positions count from the first byte the receiver still holds -/
theorem session_complete (h : Frame → Bool) (st : RxState) (hb : tryFrame st.buf = .short) (chunks : List Bytes)
    (i n : Nat) (f : Frame) (hok : tryFrame ((st.buf ++ chunks.flatten).drop i) = .ok f n) (hd : isAck f = false)
    (hfree : ∀ j, j < i → ∀ e, extent ((st.buf ++ chunks.flatten).drop j) = some e → j + e ≤ i) :
    f ∈ deliveredOf (session h st chunks).2 := by
  rw [session_delivered h st hb, List.mem_filter, ← located_frames zbossScanner]
  exact ⟨List.mem_map.mpr ⟨(i, f, n), located_complete zbossScanner zbossExtent _ i n f hok hfree, rfl⟩,
    by rw [tryFrame_ok_handedUp hok, hd]; rfl⟩

end Zboss.Rx
