import ZbossModel.Host
/-! What the model's primitives do to the requests, the lock queues and the ready list; no invariant is assumed.  Each
    lock operation is one equation (`acquire_eq`, `release_eq`, `unwindLock_eq` with `leave`) and changes only queues,
    hold flags and the ready list, so what none of these changes can break no lock operation breaks (`LockBlind`). -/
namespace Zboss.Host

theorem head_ite_append (q : List Nat) (c : Bool) (i x : Nat) (h : q.head? = some x) :
    (if c = true then q else q ++ [i]).head? = some x := by
  obtain ⟨t, rfl⟩ := List.head?_eq_some_iff.mp h
  split <;> rfl

theorem head_filter_ne (q : List Nat) (i x : Nat) (h : q.head? = some x) (hne : x ≠ i) :
    (q.filter (· != i)).head? = some x := by
  obtain ⟨t, rfl⟩ := List.head?_eq_some_iff.mp h
  rw [List.filter_cons_of_pos (by simpa using hne)]; rfl

theorem getReq_mem (st : St) (i : Nat) (r : Req) (h : getReq st i = some r) : r ∈ st.reqs ∧ r.id = i := by
  unfold getReq at h
  exact ⟨List.mem_of_find?_eq_some h, by simpa using List.find?_some h⟩

theorem getReq_congr {st st' : St} (h : st'.reqs = st.reqs) (i : Nat) : getReq st' i = getReq st i := by
  unfold getReq; rw [h]

theorem unique_of_id (st : St) (hn : (st.reqs.map (·.id)).Nodup) (r r' : Req) (hr : r ∈ st.reqs) (hr' : r' ∈ st.reqs)
    (hid : r.id = r'.id) : r = r' := by
  -- an earlier and a later request differ in their ids, whichever of `r`, `r'` is the earlier
  have hp : st.reqs.Pairwise fun a b => a.id ≠ b.id := List.pairwise_map.mp hn
  exact List.Pairwise.forall_of_forall_of_flip (R := fun a b => a.id = b.id → a = b) (fun _ _ _ => rfl)
    (hp.imp fun h e => absurd e h) (hp.imp fun h e => absurd e.symm h) hr hr' hid

theorem getReq_of_mem (st : St) (hn : (st.reqs.map (·.id)).Nodup) (r : Req) (hr : r ∈ st.reqs) : getReq st r.id = some r := by
  cases hg : getReq st r.id with
  | none => simpa using List.find?_eq_none.mp hg r hr
  | some r' =>
    obtain ⟨hm, hid⟩ := getReq_mem st r.id r' hg
    rw [unique_of_id st hn r' r hm hr hid]

theorem mem_updReq (st : St) (i : Nat) (f : Req → Req) (r' : Req) (h : r' ∈ (updReq st i f).reqs) :
    ∃ r ∈ st.reqs, r' = if (r.id == i) = true then f r else r := by
  obtain ⟨r, hr, he⟩ := List.mem_map.mp h
  exact ⟨r, hr, he.symm⟩

theorem mem_updReq_other (st : St) (i : Nat) (f : Req → Req) (r : Req) (hr : r ∈ st.reqs) (hne : r.id ≠ i) :
    r ∈ (updReq st i f).reqs :=
  List.mem_map.mpr ⟨r, hr, if_neg (by simpa using hne)⟩

theorem mem_updReq_self (st : St) (i : Nat) (f : Req → Req) (r : Req) (hr : r ∈ st.reqs) (he : r.id = i) :
    f r ∈ (updReq st i f).reqs :=
  List.mem_map.mpr ⟨r, hr, if_pos (by simpa using he)⟩

theorem of_mem_updReq (st : St) (i : Nat) (f : Req → Req) (r' : Req)
    (h : r' ∈ (updReq st i f).reqs) : (r' ∈ st.reqs ∧ r'.id ≠ i) ∨ ∃ r ∈ st.reqs, r.id = i ∧ r' = f r := by
  obtain ⟨r, hr, he⟩ := mem_updReq st i f r' h
  by_cases hi : (r.id == i) = true
  · right; rw [if_pos hi] at he; exact ⟨r, hr, by simpa using hi, he⟩
  · left; rw [if_neg hi] at he; rw [he]; exact ⟨hr, by simpa using hi⟩

theorem ids_updReq (st : St) (i : Nat) (f : Req → Req) (hf : ∀ r, (f r).id = r.id) :
    (updReq st i f).reqs.map (·.id) = st.reqs.map (·.id) := by
  simp only [updReq, List.map_map]
  apply List.map_congr_left
  intro r _
  simp only [Function.comp]
  split
  · exact hf r
  · rfl

theorem getReq_updReq (st : St) (i : Nat) (f : Req → Req) (hf : ∀ r, (f r).id = r.id) :
    getReq (updReq st i f) i = (getReq st i).map f := by
  unfold getReq updReq
  induction st.reqs with
  | nil => rfl
  | cons a t ih =>
    rw [List.map_cons, List.find?_cons, List.find?_cons]
    by_cases ha : (a.id == i) = true
    · rw [if_pos ha, hf a, ha]; rfl
    · rw [if_neg ha, Bool.not_eq_true _ |>.mp ha]; exact ih

@[simp] theorem queue_updReq (st : St) (i : Nat) (f : Req → Req) (l : Lock) : queue (updReq st i f) l = queue st l := by
  cases l <;> rfl

@[simp] theorem reqs_setQueue (st : St) (l : Lock) (q : List Nat) : (setQueue st l q).reqs = st.reqs := by
  cases l <;> rfl

@[simp] theorem queue_setQueue (st : St) (l l' : Lock) (q : List Nat) :
    queue (setQueue st l q) l' = if l' = l then q else queue st l' := by
  cases l <;> cases l' <;> simp [queue, setQueue]

theorem updReq_setQueue (st : St) (l : Lock) (q : List Nat) (i : Nat) (f : Req → Req) :
    updReq (setQueue st l q) i f = setQueue (updReq st i f) l q := by
  cases l <;> rfl

theorem getReq_setQueue (st : St) (l : Lock) (q : List Nat) (i : Nat) : getReq (setQueue st l q) i = getReq st i := by
  cases l <;> rfl

@[simp] theorem holds_setHold (r : Req) (l l' : Lock) (b : Bool) :
    holds (setHold r l b) l' = if l' = l then b else holds r l' := by
  cases l <;> cases l' <;> simp [holds, setHold]

theorem holds_B (r : Req) : holds r .B = r.holdB := rfl
theorem holds_M (r : Req) : holds r .M = r.holdM := rfl
theorem holds_T (r : Req) : holds r .T = r.holdT := rfl

theorem id_setHold (r : Req) (l : Lock) (b : Bool) : (setHold r l b).id = r.id := by cases l <;> rfl
theorem phase_setHold (r : Req) (l : Lock) (b : Bool) : (setHold r l b).phase = r.phase := by cases l <;> rfl
theorem blocking_setHold (r : Req) (l : Lock) (b : Bool) : (setHold r l b).blocking = r.blocking := by cases l <;> rfl

theorem getReq_emit (st : St) (o : Out) (i : Nat) : getReq (emit st o) i = getReq st i := rfl

@[simp] theorem queue_emit (st : St) (o : Out) (l : Lock) : queue (emit st o) l = queue st l := by
  cases l <;> rfl

theorem queue_finish (st : St) (i : Nat) (o : Outcome) (l : Lock) : queue (finish st i o) l = queue st l := by
  cases l <;> rfl

theorem reqs_finish (st : St) (i : Nat) (o : Outcome) :
    (finish st i o).reqs = (updReq st i fun r => { r with phase := .done }).reqs := rfl

@[simp] theorem ready_updReq (st : St) (i : Nat) (f : Req → Req) : (updReq st i f).ready = st.ready := rfl
@[simp] theorem ready_emit (st : St) (o : Out) : (emit st o).ready = st.ready := rfl
@[simp] theorem ready_finish (st : St) (i : Nat) (o : Outcome) : (finish st i o).ready = st.ready := rfl
@[simp] theorem ready_setQueue (st : St) (l : Lock) (q : List Nat) : (setQueue st l q).ready = st.ready := by
  cases l <;> rfl

theorem queue_ready (st : St) (rd : List Nat) (l : Lock) : queue { st with ready := rd } l = queue st l := by
  cases l <;> rfl

/-! ## `acquire` -/

theorem acquire_eta (st : St) (l : Lock) (i : Nat) : acquire st l i = ((acquire st l i).1, (acquire st l i).2) := rfl

/-- `acquire` with the queue that results left abstract -/
theorem acquire_eq (st : St) (l : Lock) (i : Nat) :
    ∃ q, q = (if (queue st l).contains i = true then queue st l else queue st l ++ [i]) ∧
      acquire st l i =
        if q.head? = some i then (updReq (setQueue st l q) i (setHold · l true), true) else (setQueue st l q, false) :=
  ⟨_, rfl, rfl⟩

theorem queue_acquire_self (st : St) (l : Lock) (i : Nat) :
    queue (acquire st l i).1 l = (if (queue st l).contains i = true then queue st l else queue st l ++ [i]) := by
  obtain ⟨q, hq, he⟩ := acquire_eq st l i
  rw [he, ← hq]
  split <;> simp

theorem queue_acquire_other (st : St) (l l' : Lock) (i : Nat) (h : l' ≠ l) :
    queue (acquire st l i).1 l' = queue st l' := by
  obtain ⟨q, _, he⟩ := acquire_eq st l i
  rw [he]
  split <;> simp [h]

theorem queue_acquire (st : St) (l l' : Lock) (i : Nat) :
    queue (acquire st l i).1 l' = queue st l' ∨
    (l' = l ∧ i ∉ queue st l' ∧ queue (acquire st l i).1 l' = queue st l' ++ [i]) := by
  by_cases hl : l' = l
  · subst hl
    rw [queue_acquire_self]
    split
    · exact .inl rfl
    · next hc => exact .inr ⟨rfl, by simpa using hc, rfl⟩
  · exact .inl (queue_acquire_other st l l' i hl)

theorem acquire_ok_iff (st : St) (l : Lock) (i : Nat) :
    (acquire st l i).2 = true ↔ (queue (acquire st l i).1 l).head? = some i := by
  obtain ⟨q, _, he⟩ := acquire_eq st l i
  rw [he]
  split
  · next hc => simpa using hc
  · next hc => simpa using hc

theorem mem_queue_acquire (st : St) (l : Lock) (i : Nat) : i ∈ queue (acquire st l i).1 l := by
  rw [queue_acquire_self]
  split
  · next hc => simpa using hc
  · simp

theorem getReq_acquire (st : St) (l : Lock) (i : Nat) (r : Req) (h : getReq st i = some r) :
    getReq (acquire st l i).1 i = some (if (acquire st l i).2 = true then setHold r l true else r) := by
  obtain ⟨q, _, he⟩ := acquire_eq st l i
  rw [he]
  split
  · exact (getReq_updReq _ i _ (id_setHold · l true)).trans (by rw [getReq_setQueue, h]; rfl)
  · exact (getReq_setQueue ..).trans h

theorem ready_acquire (st : St) (l : Lock) (i : Nat) : (acquire st l i).1.ready = st.ready := by
  obtain ⟨q, _, he⟩ := acquire_eq st l i
  rw [he]
  split
  · exact (ready_updReq ..).trans (ready_setQueue ..)
  · exact ready_setQueue ..

/-! ## `release` -/

theorem release_eq (st : St) (l : Lock) (i : Nat) :
    release st l i =
      updReq (setQueue { st with ready := st.ready ++ ((queue st l).drop 1).head?.toList } l ((queue st l).drop 1)) i
        (setHold · l false) := by
  unfold release
  simp only []
  cases ((queue st l).drop 1).head? with
  | none => rw [Option.toList, List.append_nil]
  | some j => cases l <;> rfl

theorem getReq_release (st : St) (l : Lock) (i : Nat) (r : Req) (h : getReq st i = some r) :
    getReq (release st l i) i = some (setHold r l false) := by
  rw [release_eq, getReq_updReq _ i _ (id_setHold · l false), getReq_setQueue]
  exact congrArg _ h

theorem queue_release_self (st : St) (l : Lock) (i : Nat) : queue (release st l i) l = (queue st l).drop 1 := by
  rw [release_eq, queue_updReq, queue_setQueue, if_pos rfl]

theorem queue_release_other (st : St) (l l' : Lock) (i : Nat) (h : l' ≠ l) : queue (release st l i) l' = queue st l' := by
  rw [release_eq, queue_updReq, queue_setQueue, if_neg h]
  exact queue_ready ..

theorem ready_release_le (st : St) (l : Lock) (i : Nat) : (release st l i).ready.length ≤ st.ready.length + 1 := by
  rw [release_eq]
  cases ((queue st l).drop 1).head? <;> simp

/-! ## leaving a queue -/

/-- request `i` leaves the queue of lock `l`; if it was at its head (as holder, or as a waiter already woken) the next in
    line is woken -/
def leave (st : St) (l : Lock) (i : Nat) : St :=
  setQueue { st with ready := st.ready ++ if (queue st l).head? = some i then ((queue st l).filter (· != i)).head?.toList else [] }
    l ((queue st l).filter (· != i))

theorem queue_leave (st : St) (l l' : Lock) (i : Nat) :
    queue (leave st l i) l' = if l' = l then (queue st l).filter (· != i) else queue st l' := by
  simp only [leave, queue_setQueue, queue_ready]

theorem reqs_leave (st : St) (l : Lock) (i : Nat) : (leave st l i).reqs = st.reqs := by cases l <;> rfl

theorem ready_leave (st : St) (l : Lock) (i : Nat) :
    (leave st l i).ready =
      st.ready ++ if (queue st l).head? = some i then ((queue st l).filter (· != i)).head?.toList else [] := by
  cases l <;> rfl

theorem ready_leave_le (st : St) (l : Lock) (i : Nat) : (leave st l i).ready.length ≤ st.ready.length + 1 := by
  rw [ready_leave, List.length_append]
  split
  · cases ((queue st l).filter (· != i)).head? <;> simp
  · simp

theorem notmem_leave (st : St) (l : Lock) (i : Nat) : i ∉ queue (leave st l i) l := by
  rw [queue_leave, if_pos rfl]
  intro hm; simpa using (List.mem_filter.mp hm).2

theorem leave_of_notmem {st : St} {l : Lock} {i : Nat} (h : i ∉ queue st l) : leave st l i = st := by
  have hf : (queue st l).filter (· != i) = queue st l :=
    List.filter_eq_self.mpr fun a ha => by simpa using fun (e : a = i) => h (e ▸ ha)
  have hh : (queue st l).head? ≠ some i := fun e => h (List.mem_of_mem_head? e)
  unfold leave
  rw [hf, if_neg hh, List.append_nil]
  cases l <;> rfl

theorem release_eq_leave {st : St} {l : Lock} {i : Nat} (hnd : (queue st l).Nodup) (hh : (queue st l).head? = some i) :
    release st l i = updReq (leave st l i) i (setHold · l false) := by
  obtain ⟨t, hq⟩ := List.head?_eq_some_iff.mp hh
  have hf : (queue st l).filter (· != i) = (queue st l).drop 1 := by
    rw [hq] at hnd ⊢
    rw [List.filter_cons_of_neg (by simp)]
    exact List.filter_eq_self.mpr fun a ha => by simpa using fun (e : a = i) => (List.nodup_cons.mp hnd).1 (e ▸ ha)
  rw [release_eq, leave, hf, if_pos hh]

theorem notmem_release (st : St) (l : Lock) (i : Nat) (hnd : (queue st l).Nodup) (hhead : (queue st l).head? = some i) :
    i ∉ queue (release st l i) l := by
  rw [release_eq_leave hnd hhead, queue_updReq]
  exact notmem_leave st l i

/-! ## `unwindLock` -/

theorem unwindLock_none {st : St} {i : Nat} (hg : getReq st i = none) (l : Lock) : unwindLock st l i = st := by
  unfold unwindLock; simp only [hg]; split <;> rfl

theorem unwindLock_of_notmem (st : St) (l : Lock) (i : Nat) (h : i ∉ queue st l) : unwindLock st l i = st := by
  unfold unwindLock
  simp only []
  rw [if_pos (by simpa using h)]

theorem unwindLock_eq {st : St} {i : Nat} {r : Req} (hg : getReq st i = some r) (l : Lock) :
    unwindLock st l i =
      if (queue st l).head? = some i ∧ holds r l = true then release st l i else leave st l i := by
  by_cases hm : i ∈ queue st l
  · unfold unwindLock
    simp only [hg]
    rw [if_neg (by simpa using hm)]
    by_cases hc : (queue st l).head? = some i ∧ holds r l = true
    · simp only [hc, decide_true, Bool.and_self, if_true, and_self]
    · rw [if_neg hc, if_neg (by simpa using hc), leave]
      split
      · cases ((queue st l).filter (· != i)).head? with
        | none => rw [Option.toList, List.append_nil]
        | some j => cases l <;> rfl
      · rw [List.append_nil]
  · rw [unwindLock_of_notmem st l i hm, if_neg fun h => hm (List.mem_of_mem_head? h.1), leave_of_notmem hm]

theorem unwindLock_cases {P : St → Prop} (st : St) (l : Lock) (i : Nat) (h0 : P st)
    (hrel : (queue st l).head? = some i → P (release st l i))
    (hleave : ∀ r, getReq st i = some r → ¬((queue st l).head? = some i ∧ holds r l = true) → P (leave st l i)) :
    P (unwindLock st l i) := by
  cases hg : getReq st i with
  | none => rw [unwindLock_none hg]; exact h0
  | some r =>
    rw [unwindLock_eq hg]
    split
    · next hc => exact hrel hc.1
    · next hc => exact hleave r hg hc

theorem queue_unwindLock_self (st : St) (l : Lock) (i : Nat) :
    queue (unwindLock st l i) l = queue st l ∨
    ((queue st l).head? = some i ∧ queue (unwindLock st l i) l = (queue st l).drop 1) ∨
    queue (unwindLock st l i) l = (queue st l).filter (· != i) :=
  unwindLock_cases (P := fun s => queue s l = queue st l ∨ ((queue st l).head? = some i ∧ queue s l = (queue st l).drop 1) ∨
      queue s l = (queue st l).filter (· != i)) st l i (.inl rfl)
    (fun hh => .inr (.inl ⟨hh, queue_release_self st l i⟩)) fun _ _ _ => .inr (.inr (by rw [queue_leave, if_pos rfl]))

theorem queue_unwindLock_other (st : St) (l l' : Lock) (i : Nat) (h : l' ≠ l) :
    queue (unwindLock st l i) l' = queue st l' :=
  unwindLock_cases (P := fun s => queue s l' = queue st l') st l i rfl (fun _ => queue_release_other st l l' i h)
    fun _ _ _ => by rw [queue_leave, if_neg h]

theorem notmem_unwindLock (st : St) (l : Lock) (i : Nat) (r : Req) (hnd : (queue st l).Nodup)
    (hg : getReq st i = some r) : i ∉ queue (unwindLock st l i) l := by
  rw [unwindLock_eq hg]
  split
  · next hc => exact notmem_release st l i hnd hc.1
  · exact notmem_leave st l i

theorem ready_unwindLock_le (st : St) (l : Lock) (i : Nat) : (unwindLock st l i).ready.length ≤ st.ready.length + 1 :=
  unwindLock_cases (P := fun s => s.ready.length ≤ st.ready.length + 1) st l i (Nat.le_succ _)
    (fun _ => ready_release_le st l i) fun _ _ _ => ready_leave_le st l i

theorem ready_unwind_le (st : St) (i : Nat) (o : Outcome) : (unwind st i o).ready.length ≤ st.ready.length + 3 := by
  unfold unwind
  rw [ready_finish]
  have h1 := ready_unwindLock_le st .T i
  have h2 := ready_unwindLock_le (unwindLock st .T i) .M i
  have h3 := ready_unwindLock_le (unwindLock (unwindLock st .T i) .M i) .B i
  omega

/-! ## `LockBlind` -/

/-- a property of states that no change of a lock queue, of a hold flag or of the ready list can break -/
structure LockBlind (P : St → Prop) : Prop where
  onQueue : ∀ s l q, P s → P (setQueue s l q)
  onHold : ∀ s i l b, P s → P (updReq s i (setHold · l b))
  onReady : ∀ s rd, P s → P { s with ready := rd }

theorem blind_acquire {P : St → Prop} (hP : LockBlind P) (st : St) (l : Lock) (i : Nat) (h : P st) :
    P (acquire st l i).1 := by
  obtain ⟨q, _, he⟩ := acquire_eq st l i
  rw [he]
  split
  · exact hP.onHold _ i l true (hP.onQueue st l q h)
  · exact hP.onQueue st l q h

theorem blind_release {P : St → Prop} (hP : LockBlind P) (st : St) (l : Lock) (i : Nat) (h : P st) :
    P (release st l i) := by
  rw [release_eq]
  exact hP.onHold _ i l false (hP.onQueue _ l _ (hP.onReady st _ h))

theorem blind_unwindLock {P : St → Prop} (hP : LockBlind P) (st : St) (l : Lock) (i : Nat) (h : P st) :
    P (unwindLock st l i) :=
  unwindLock_cases st l i h (fun _ => blind_release hP st l i h) fun _ _ _ => hP.onQueue _ l _ (hP.onReady st _ h)

theorem blind_unwindLocks {P : St → Prop} (hP : LockBlind P) (st : St) (i : Nat) (h : P st) :
    P (unwindLock (unwindLock (unwindLock st .T i) .M i) .B i) :=
  blind_unwindLock hP _ .B i (blind_unwindLock hP _ .M i (blind_unwindLock hP st .T i h))

theorem ids_blind (ids : List Nat) : LockBlind fun s => s.reqs.map (·.id) = ids :=
  ⟨fun s l q h => by rw [reqs_setQueue]; exact h, fun s i l b h => by rw [ids_updReq s i _ (id_setHold · l b)]; exact h,
   fun _ _ h => h⟩

theorem ids_unwind (st : St) (i : Nat) (o : Outcome) : (unwind st i o).reqs.map (·.id) = st.reqs.map (·.id) := by
  rw [unwind, reqs_finish, ids_updReq _ i (fun r => { r with phase := .done }) fun _ => rfl]
  exact blind_unwindLocks (ids_blind _) st i rfl

theorem phases_unwind (Q : Phase → Prop) (hd : Q .done) (st : St) (i : Nat) (o : Outcome) (h : ∀ r ∈ st.reqs, Q r.phase) :
    ∀ r ∈ (unwind st i o).reqs, Q r.phase := by
  have hP : LockBlind fun s => ∀ r ∈ s.reqs, Q r.phase :=
    ⟨fun s l q hs => by rw [reqs_setQueue]; exact hs, fun s j l b hs r' hr' => by
      obtain ⟨r, hr, rfl⟩ := mem_updReq s j _ r' hr'
      split
      · rw [phase_setHold]; exact hs r hr
      · exact hs r hr, fun _ _ hs => hs⟩
  intro r' hr'
  rw [unwind, reqs_finish] at hr'
  obtain ⟨r, hr, rfl⟩ := mem_updReq _ i _ r' hr'
  split
  · exact hd
  · exact blind_unwindLocks hP st i h r hr

/-! ## `settle` -/

theorem settle_idle (fuel : Nat) (st : St) (h : st.ready = []) : settle fuel st = st := by
  cases fuel with
  | zero => rfl
  | succ n => unfold settle; rw [h]

end Zboss.Host
