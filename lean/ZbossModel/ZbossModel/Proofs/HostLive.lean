import ZbossModel.Proofs.HostCover
/-! No lost wake-up: every running request is either runnable (in the ready queue) or parked for a reason that
    somebody else will lift - a lock held by a running request, the ACK wait, a still pending response future.
    Together with queue integrity this gives the *drain* theorem: once the API is shut, a quiescent state without an
    ACK wait has no running request left.

    A task step is followed as `InTask st i r` - the invariant with task `i` exempt, unique ids, `r` the record of `i` -
    through a change of the record (`upd`, `move`), joining a queue (`acquire`) and leaving one (`leave`; a `release`
    is the holder leaving); everything about a single queue goes through `Live.at_lock`. -/
namespace Zboss.Host

/-- queued for lock `l` (only blocking requests ever queue for the blocking lock) -/
def waiting (l : Lock) (r : Req) : Prop := r.phase = waitPhase l ∧ (l = .B → r.blocking = true)

/-- not runnable, for a reason somebody else will lift -/
def Parked (st : St) (r : Req) : Prop :=
  (∃ l, r.phase = waitPhase l ∧ r.id ∈ queue st l ∧ (queue st l).head? ≠ some r.id) ∨
  r.phase = .waitAck ∨
  (r.phase = .waitRsp ∧ r.got = .nothing)

/-- queue integrity + no lost wake-up; `x` is the task that is executing right now (exempt from the wake-up clause) -/
structure Live (st : St) (x : Option Nat) : Prop where
  nodup : ∀ l, (queue st l).Nodup
  qi : ∀ l, ∀ i ∈ queue st l, ∃ r ∈ st.reqs, r.id = i ∧ r.phase ≠ .done ∧
    (waiting l r ∨ (holds r l = true ∧ heldPhase l r))
  wake : ∀ r ∈ st.reqs, r.phase ≠ .done → some r.id ≠ x → r.id ∈ st.ready ∨ Parked st r

theorem Live.weaken {st : St} {x : Option Nat} (h : Live st none) : Live st x :=
  ⟨h.nodup, h.qi, fun r hr hp _ => h.wake r hr hp nofun⟩

theorem Live.parked {st : St} (h : Live st none) (hq : st.ready = []) {r : Req} (hr : r ∈ st.reqs) (hp : r.phase ≠ .done) :
    Parked st r :=
  (h.wake r hr hp nofun).resolve_left (hq ▸ List.not_mem_nil)

theorem Parked.got {st : St} {r : Req} (h : Parked st r) (hp : r.phase = .waitRsp) : r.got = .nothing := by
  rcases h with ⟨l, h1, _⟩ | h | ⟨_, h⟩
  · rw [hp] at h1; cases l <;> cases h1
  · rw [hp] at h; cases h
  · exact h

theorem Parked.queued {st : St} {r : Req} {l : Lock} (h : Parked st r) (hp : r.phase = waitPhase l) :
    r.id ∈ queue st l ∧ (queue st l).head? ≠ some r.id := by
  rcases h with ⟨l', h1, h2⟩ | h | ⟨h, _⟩
  · cases waitPhase_inj (h1.symm.trans hp); exact h2
  · rw [hp] at h; cases l <;> cases h
  · rw [hp] at h; cases l <;> cases h

theorem Live.waits_queued {st : St} (h : Live st none) (hq : st.ready = []) {r : Req} (hr : r ∈ st.reqs) {l : Lock}
    (hp : r.phase = waitPhase l) : r.id ∈ queue st l ∧ (queue st l).head? ≠ some r.id :=
  (h.parked hq hr (by rw [hp]; cases l <;> decide)).queued hp

/-- what `Live.qi` says of the record of a request in the queue of lock `l` -/
def Queued (l : Lock) (r : Req) : Prop := waiting l r ∨ (holds r l = true ∧ heldPhase l r)

def lockPhase : Lock → Phase → Bool
  | .T => ackPhase | .M => inTransmit | .B => afterB

theorem heldPhase_iff {l : Lock} {r : Req} :
    heldPhase l r ↔ lockPhase l r.phase = true ∧ (l = .B → r.blocking = true) := by
  cases l <;> simp [heldPhase, lockPhase, and_comm]

theorem Queued.blocking {l : Lock} {r : Req} (h : Queued l r) (hl : l = .B) : r.blocking = true := by
  rcases h with h | ⟨_, h⟩
  · exact h.2 hl
  · exact (heldPhase_iff.mp h).2 hl

theorem Live.queued {st : St} {x : Option Nat} (h : Live st x) (hn : (st.reqs.map (·.id)).Nodup) {l : Lock} {r : Req}
    (hr : r ∈ st.reqs) (hm : r.id ∈ queue st l) : r.phase ≠ .done ∧ Queued l r := by
  obtain ⟨r', hr', hid, hd⟩ := h.qi l r.id hm
  rw [← unique_of_id st hn r' r hr' hr hid]
  exact hd

theorem Queued.congr {l : Lock} {r r' : Req} (hp : r'.phase = r.phase) (hb : r'.blocking = r.blocking)
    (hh : holds r l = true → holds r' l = true) (h : Queued l r) : Queued l r' := by
  unfold Queued waiting at h ⊢
  rw [heldPhase_iff] at h ⊢
  rw [hp, hb]
  exact h.imp_right (And.imp_left hh)

/-- moving from phase `p` to `p'` leaves the request's place in the queue of lock `l`, if it has one, in order -/
abbrev Stays (l : Lock) (p p' : Phase) : Prop := p ≠ waitPhase l ∧ (lockPhase l p = true → lockPhase l p' = true)

theorem Queued.move {l : Lock} {r r' : Req} (hb : r'.blocking = r.blocking) (hh : holds r' l = holds r l)
    (hs : Stays l r.phase r'.phase) (h : Queued l r) : Queued l r' := by
  rcases h with hw | ⟨h1, h2⟩
  · exact absurd hw.1 hs.1
  · rw [heldPhase_iff] at h2
    exact .inr ⟨by rw [hh]; exact h1, heldPhase_iff.mpr ⟨hs.2 h2.1, by rw [hb]; exact h2.2⟩⟩

theorem parked_queues {st st' : St} {r : Req} (hq : ∀ l, queue st' l = queue st l) (h : Parked st r) : Parked st' r := by
  unfold Parked at h ⊢
  simpa only [hq] using h

theorem Parked.record {st : St} {r r' : Req} (hid : r'.id = r.id) (hp : r'.phase = r.phase)
    (hg : r.phase = .waitRsp → r'.got = r.got) (h : Parked st r) : Parked st r' := by
  unfold Parked at h ⊢
  rw [hid, hp]
  exact h.imp_right (Or.imp_right fun ⟨h1, h2⟩ => ⟨h1, (hg h1).trans h2⟩)

theorem Live.at_lock {st st' : St} {x : Option Nat} (l : Lock) (h : Live st x) (hr : st'.reqs = st.reqs)
    (ho : ∀ l', l' ≠ l → queue st' l' = queue st l') (hrd : ∀ j ∈ st.ready, j ∈ st'.ready)
    (hnd : (queue st' l).Nodup)
    (hqi : ∀ j ∈ queue st' l, j ∈ queue st l ∨ ∃ r ∈ st.reqs, r.id = j ∧ r.phase ≠ .done ∧ Queued l r)
    (hw : ∀ j, some j ≠ x → j ∈ queue st l → (queue st l).head? ≠ some j →
      j ∈ st'.ready ∨ (j ∈ queue st' l ∧ (queue st' l).head? ≠ some j)) : Live st' x := by
  refine ⟨fun l' => ?_, fun l' j hj => ?_, fun r hrm hp hx => ?_⟩
  · by_cases hl : l' = l
    · exact hl ▸ hnd
    · rw [ho l' hl]; exact h.nodup l'
  · rw [hr]
    by_cases hl : l' = l
    · subst hl; exact (hqi j hj).elim (h.qi l' j) id
    · rw [ho l' hl] at hj; exact h.qi l' j hj
  · rw [hr] at hrm
    rcases h.wake r hrm hp hx with hk | ⟨l', h1, h2, h3⟩ | hk
    · exact .inl (hrd _ hk)
    · by_cases hl : l' = l
      · subst hl; exact (hw r.id hx h2 h3).imp_right fun k => .inl ⟨l', h1, k⟩
      · exact .inr (.inl ⟨l', h1, by rw [ho l' hl]; exact h2, by rw [ho l' hl]; exact h3⟩)
    · exact .inr (.inr hk)

theorem Live.same {st st' : St} {x : Option Nat} (h : Live st x) (hr : st'.reqs = st.reqs) (hb : st'.bq = st.bq)
    (hm : st'.mq = st.mq) (ht : st'.tq = st.tq) (hrd : st'.ready = st.ready) : Live st' x := by
  have hq : ∀ l, queue st' l = queue st l := fun l => by cases l <;> assumption
  refine ⟨fun l => by rw [hq]; exact h.nodup l, fun l i hi => ?_, fun r hrm hp hx => ?_⟩
  · rw [hr]; rw [hq] at hi; exact h.qi l i hi
  · rw [hr] at hrm; rw [hrd]; exact (h.wake r hrm hp hx).imp_right (parked_queues hq)

/-- the executing request leaves a queue: a wake-up it had received, or the lock it held, goes to the next in line -/
theorem live_leave (st : St) (l : Lock) (i : Nat) (h : Live st (some i)) : Live (leave st l i) (some i) := by
  have hq : queue (leave st l i) l = (queue st l).filter (· != i) := by rw [queue_leave, if_pos rfl]
  refine h.at_lock l (reqs_leave ..) (fun l' hl => by rw [queue_leave, if_neg hl])
    (fun j hj => by rw [ready_leave]; exact List.mem_append_left _ hj) ?_ ?_ ?_ <;> rw [hq]
  · exact (h.nodup l).filter _
  · exact fun j hj => .inl (List.mem_filter.mp hj).1
  · intro j hx h2 h3
    have hne : j ≠ i := fun e => hx (e ▸ rfl)
    by_cases hh : ((queue st l).filter (· != i)).head? = some j
    · -- `j` has become the head: then `i` was the head before, and the wake-up is passed on
      have hwas : (queue st l).head? = some i := by
        cases ha : (queue st l).head? with
        | none => rw [List.head?_eq_none_iff.mp ha] at h2; cases h2
        | some a =>
          by_cases hai : a = i
          · rw [hai]
          · rw [head_filter_ne _ i a ha hai] at hh; rw [ha] at h3; exact absurd hh h3
      left; rw [ready_leave, if_pos hwas, hh]; simp
    · exact .inr ⟨List.mem_filter.mpr ⟨h2, by simpa using hne⟩, hh⟩

/-! ## inside a task -/

/-- inside the task step of request `i`: it is exempt from the wake-up clause, and `r` is its record -/
structure InTask (st : St) (i : Nat) (r : Req) : Prop where
  live : Live st (some i)
  ids : (st.reqs.map (·.id)).Nodup
  get : getReq st i = some r

namespace InTask
variable {st st' : St} {i : Nat} {r : Req}

theorem of_reqs (h : InTask st i r) (hr : st'.reqs = st.reqs) (hl : Live st' (some i)) : InTask st' i r :=
  ⟨hl, hr ▸ h.ids, (getReq_congr hr i).trans h.get⟩

theorem same (h : InTask st i r) (hr : st'.reqs = st.reqs) (hb : st'.bq = st.bq) (hm : st'.mq = st.mq)
    (ht : st'.tq = st.tq) (hrd : st'.ready = st.ready) : InTask st' i r :=
  h.of_reqs hr (h.live.same hr hb hm ht hrd)

theorem emit (h : InTask st i r) (o : Out) : InTask (emit st o) i r := h.same rfl rfl rfl rfl rfl

theorem queued (h : InTask st i r) {l : Lock} (hm : i ∈ queue st l) : r.phase ≠ .done ∧ Queued l r := by
  obtain ⟨hrm, rfl⟩ := getReq_mem st i r h.get
  exact h.live.queued h.ids hrm hm

theorem notmem (h : InTask st i r) (l : Lock) (hw : r.phase ≠ waitPhase l) (hl : lockPhase l r.phase = false) :
    i ∉ queue st l := by
  intro hm
  rcases (h.queued hm).2 with hd | ⟨_, hd⟩
  · exact hw hd.1
  · rw [(heldPhase_iff.mp hd).1] at hl; cases hl

theorem upd (h : InTask st i r) {f : Req → Req} (hid : ∀ x, (f x).id = x.id)
    (hq : ∀ l, i ∈ queue st l → (f r).phase ≠ .done ∧ Queued l (f r)) : InTask (updReq st i f) i (f r) := by
  obtain ⟨hrm, hrid⟩ := getReq_mem st i r h.get
  refine ⟨⟨fun l => by simpa using h.live.nodup l, fun l j hj => ?_, fun r' hr' hp' hx => ?_⟩,
    by rw [ids_updReq st i f hid]; exact h.ids, by rw [getReq_updReq st i f hid, h.get]; rfl⟩
  · have hj' : j ∈ queue st l := by simpa using hj
    by_cases hji : j = i
    · subst hji
      exact ⟨f r, mem_updReq_self st j f r hrm hrid, (hid r).trans hrid, hq l hj'⟩
    · obtain ⟨rj, hrj, hidj, hd⟩ := h.live.qi l j hj'
      exact ⟨rj, mem_updReq_other st i f rj hrj (by rw [hidj]; exact hji), hidj, hd⟩
  · rcases of_mem_updReq st i f r' hr' with ⟨hm, _⟩ | ⟨r0, _, hi0, rfl⟩
    · exact (h.live.wake r' hm hp' hx).imp_right (parked_queues fun l => queue_updReq st i f l)
    · exact absurd (by rw [hid, hi0]) hx

theorem setHold (h : InTask st i r) (l : Lock) (b : Bool) (hb : b = false → i ∉ queue st l) :
    InTask (updReq st i (setHold · l b)) i (setHold r l b) :=
  h.upd (fun x => id_setHold x l b) fun l' hm =>
    ⟨by rw [phase_setHold]; exact (h.queued hm).1,
      (h.queued hm).2.congr (phase_setHold r l b) (blocking_setHold r l b) fun hh => by
        rw [holds_setHold]
        split
        · next hl => cases b with
          | true => rfl
          | false => exact absurd (hl ▸ hm) (hb rfl)
        · exact hh⟩

theorem move (h : InTask st i r) {f : Req → Req} {p' : Phase}
    (hf : ∀ x, (f x).id = x.id ∧ (f x).blocking = x.blocking ∧ (∀ l, holds (f x) l = holds x l) ∧ (f x).phase = p')
    (hp' : p' ≠ .done)
    (hq : ∀ l, i ∈ queue st l → Stays l r.phase p' ∨ (holds r l = true ∧ lockPhase l p' = true)) :
    InTask (updReq st i f) i (f r) :=
  h.upd (fun x => (hf x).1) fun l hm => by
    obtain ⟨hb, hh, hp⟩ := (hf r).2
    have hd := (h.queued hm).2
    refine ⟨by rw [hp]; exact hp', ?_⟩
    rcases hq l hm with hs | ⟨hk1, hk2⟩
    · exact hd.move hb (hh l) (hp ▸ hs)
    · exact .inr ⟨by rw [hh]; exact hk1,
        heldPhase_iff.mpr ⟨by rw [hp]; exact hk2, fun hl => by rw [hb]; exact hd.blocking hl⟩⟩

theorem enqueue (h : InTask st i r) {l : Lock} (hp : r.phase = waitPhase l) (hbl : l = .B → r.blocking = true)
    (hni : i ∉ queue st l) : InTask (setQueue st l (queue st l ++ [i])) i r := by
  obtain ⟨hrm, hrid⟩ := getReq_mem st i r h.get
  have hq : queue (setQueue st l (queue st l ++ [i])) l = queue st l ++ [i] := by rw [queue_setQueue, if_pos rfl]
  refine h.of_reqs (reqs_setQueue ..) (h.live.at_lock l (reqs_setQueue ..) (fun l' hl => by rw [queue_setQueue, if_neg hl])
    (fun j hj => by cases l <;> exact hj) ?_ ?_ ?_) <;> rw [hq]
  · exact List.nodup_append.mpr ⟨h.live.nodup l, by simp, fun a ha b hb => by
      rw [List.mem_singleton.mp hb]; exact fun e => hni (e ▸ ha)⟩
  · intro j hj
    rcases List.mem_append.mp hj with hj | hj
    · exact .inl hj
    · exact .inr ⟨r, hrm, hrid.trans (List.mem_singleton.mp hj).symm, by rw [hp]; cases l <;> decide, .inl ⟨hp, hbl⟩⟩
  · intro j _ h2 h3
    -- the queue was not empty, so its head stays
    obtain ⟨a, t, hat⟩ := List.exists_cons_of_ne_nil (List.ne_nil_of_mem h2)
    rw [hat] at h2 h3 ⊢
    exact .inr ⟨List.mem_append_left _ h2, h3⟩

theorem acquire (h : InTask st i r) {l : Lock} (hp : r.phase = waitPhase l) (hbl : l = .B → r.blocking = true)
    {ok : Bool} (hok : (acquire st l i).2 = ok) :
    InTask (acquire st l i).1 i (bif ok then Host.setHold r l true else r) := by
  subst hok
  have he : InTask (setQueue st l (if (queue st l).contains i = true then queue st l else queue st l ++ [i])) i r := by
    split
    · rw [show setQueue st l (queue st l) = st by cases l <;> rfl]; exact h
    · next hc => exact h.enqueue hp hbl (by simpa using hc)
  by_cases hc : (if (queue st l).contains i = true then queue st l else queue st l ++ [i]).head? = some i
  · rw [show Host.acquire st l i = (updReq (setQueue st l _) i (Host.setHold · l true), true) from if_pos hc]
    exact he.setHold l true nofun
  · rw [show Host.acquire st l i = (setQueue st l _, false) from if_neg hc]
    exact he

theorem leave (h : InTask st i r) (l : Lock) : InTask (leave st l i) i r :=
  h.of_reqs (reqs_leave ..) (live_leave st l i h.live)

theorem release (h : InTask st i r) {l : Lock} (hhead : (queue st l).head? = some i) :
    InTask (release st l i) i (Host.setHold r l false) := by
  rw [release_eq_leave (h.live.nodup l) hhead]
  exact (h.leave l).setHold l false fun _ => notmem_leave st l i

theorem unwindLock (h : InTask st i r) (l : Lock) :
    (∃ r', InTask (unwindLock st l i) i r') ∧ i ∉ queue (unwindLock st l i) l := by
  refine ⟨?_, notmem_unwindLock st l i r (h.live.nodup l) h.get⟩
  rw [unwindLock_eq h.get]
  split
  · next hc => exact ⟨_, h.release hc.1⟩
  · exact ⟨r, h.leave l⟩

theorem stop (h : InTask st i r) (hs : r.phase = .done ∨ Parked st r) : Live st none := by
  obtain ⟨hrm, hrid⟩ := getReq_mem st i r h.get
  refine ⟨h.live.nodup, h.live.qi, fun r' hr' hp' _ => ?_⟩
  by_cases he : r'.id = i
  · rw [unique_of_id st h.ids r' r hr' hrm (he.trans hrid.symm)] at hp' ⊢
    exact .inr (hs.resolve_left hp')
  · exact h.live.wake r' hr' hp' (by simpa using he)

theorem finish (h : InTask st i r) (o : Outcome) (hq : ∀ l, i ∉ queue st l) : Live (finish st i o) none :=
  ((h.upd (f := fun r => { r with phase := .done }) (fun _ => rfl) fun l hm => absurd hm (hq l)).same
    (st' := Host.finish st i o) rfl rfl rfl rfl rfl).stop (.inl rfl)

theorem unwind (h : InTask st i r) (o : Outcome) : Live (unwind st i o) none := by
  obtain ⟨⟨r1, h1⟩, n1⟩ := h.unwindLock .T
  obtain ⟨⟨r2, h2⟩, n2⟩ := h1.unwindLock .M
  obtain ⟨⟨r3, h3⟩, n3⟩ := h2.unwindLock .B
  refine h3.finish o fun l => ?_
  cases l with
  | B => exact n3
  | M => rw [queue_unwindLock_other _ .B .M i (by decide)]; exact n2
  | T => rw [queue_unwindLock_other _ .B .T i (by decide), queue_unwindLock_other _ .M .T i (by decide)]; exact n1

end InTask

/-! ## one task micro-step -/

/-- one micro-step of the executing request keeps queue integrity and the wake-up clause; when the task blocks or ends
    instead of going on (`c = false`), the exemption is over -/
theorem live_of_micro {st st' : St} {i : Nat} {r : Req} {c : Bool} (hg : getReq st i = some r) (hm : Micro st i r st' c)
    (hinv : Inv2 st) (h : Live st (some i)) : Live st' (bif c then some i else none) := by
  have hT : InTask st i r := ⟨h, hinv.1, hg⟩
  obtain ⟨hrm, hrid⟩ := getReq_mem st i r hg
  obtain ⟨hHH, hPH⟩ := hinv.2 r hrm
  simp only [HoldHead, hrid] at hHH
  cases hm with
  | idle hp => exact hT.stop (hp.imp id .inr)
  | skipB hp hb =>
    refine InTask.live (hT.move (p' := .waitM) (fun _ => ⟨rfl, rfl, fun _ => rfl, rfl⟩) (by decide) fun l hm => ?_)
    cases l with
    | B => exact absurd ((hT.queued hm).2.blocking rfl) (by simp [hb])
    | M | T => exact .inl (by rw [hp]; decide)
  | toWaitT hp =>
    exact InTask.live (hT.move (p' := .waitT) (fun _ => ⟨rfl, rfl, fun _ => rfl, rfl⟩) (by decide)
      fun l _ => .inl (by rw [hp]; cases l <;> decide))
  | blocked l hp hb hf =>
    -- a failed `acquire` parks the request behind the queue's head
    refine InTask.stop (r := r) (hT.acquire hp hb hf) (.inr (.inl ⟨l, hp, ?_⟩))
    rw [hrid]
    exact ⟨mem_queue_acquire st l i, fun hh => by rw [← acquire_ok_iff, hf] at hh; cases hh⟩
  | locked l hl hp hb hok =>
    refine InTask.live ((hT.acquire hp hb hok).move (p' := afterLock l) (fun _ => ⟨rfl, rfl, fun _ => rfl, rfl⟩)
      (by cases l <;> decide) fun l' _ => ?_)
    by_cases e : l' = l
    · subst e; exact .inr ⟨by simp, by cases l' <;> first | rfl | exact absurd rfl hl⟩
    · -- a lock taken earlier (B, when `l` is M) stays held; one taken later is not yet waited for
      refine .inl ?_
      rw [cond_true, phase_setHold, hp]
      revert e hl; cases l <;> cases l' <;> decide
  | write hp hok ht =>
    refine InTask.stop (((hT.acquire (l := .T) hp nofun hok).emit _).move (p' := .waitAck)
      (fun _ => ⟨rfl, rfl, fun _ => rfl, rfl⟩) (by decide) fun l _ => ?_) (.inr (.inr (.inl rfl)))
    cases l with
    | T => exact .inr ⟨rfl, rfl⟩
    | B | M => exact .inl (by rw [cond_true, phase_setHold, hp]; decide)
  | skipWrite hp hok ht =>
    refine InTask.live ((hT.acquire (l := .T) hp nofun hok).move (p' := .acked)
      (fun _ => ⟨rfl, rfl, fun _ => rfl, rfl⟩) (by decide) fun l _ => ?_)
    cases l with
    | T => exact .inr ⟨rfl, rfl⟩
    | B | M => exact .inl (by rw [cond_true, phase_setHold, hp]; decide)
  | refused | cancelled => exact hT.unwind _
  | nextFrag hp hlt =>
    have hheadT : (queue st .T).head? = some i := hHH .T (hPH.2.1 (by rw [hp]; rfl))
    refine InTask.live ((hT.release hheadT).move (p' := .sendfrag) (fun _ => ⟨rfl, rfl, fun _ => rfl, rfl⟩) (by decide)
      fun l hm => ?_)
    cases l with
    | T => exact absurd hm (notmem_release st .T i (h.nodup .T) hheadT)
    | B | M => exact .inl (by rw [phase_setHold, hp]; decide)
  | lastFrag hp hlt =>
    -- the message is out: leave the transmit and the message lock, wait for the response
    have hheadT : (queue st .T).head? = some i := hHH .T (hPH.2.1 (by rw [hp]; rfl))
    have hheadM : (queue (release st .T i) .M).head? = some i := by
      rw [queue_release_other st .T .M i (by decide)]; exact hHH .M (hPH.1 (by rw [hp]; rfl))
    have hR := hT.release hheadT
    refine InTask.live ((hR.release hheadM).move (p' := .waitRsp) (fun _ => ⟨rfl, rfl, fun _ => rfl, rfl⟩) (by decide)
      fun l hm => ?_)
    cases l with
    | T =>
      rw [queue_release_other _ .M .T i (by decide)] at hm
      exact absurd hm (notmem_release st .T i (h.nodup .T) hheadT)
    | M => exact absurd hm (notmem_release _ .M i (hR.live.nodup .M) hheadM)
    | B => exact .inl (by rw [phase_setHold, phase_setHold, hp]; decide)
  | answered hp hgot =>
    have hnM : i ∉ queue st .M := hT.notmem .M (by rw [hp]; decide) (by rw [hp]; rfl)
    have hnT : i ∉ queue st .T := hT.notmem .T (by rw [hp]; decide) (by rw [hp]; rfl)
    split
    · next hbl =>
      have hheadB : (queue st .B).head? = some i := hHH .B (hPH.2.2 hbl (by rw [hp]; rfl))
      refine (hT.release hheadB).finish .ret fun l => ?_
      cases l with
      | B => exact notmem_release st .B i (h.nodup .B) hheadB
      | M => rw [queue_release_other st .B .M i (by decide)]; exact hnM
      | T => rw [queue_release_other st .B .T i (by decide)]; exact hnT
    · next hbl =>
      refine hT.finish .ret fun l => ?_
      cases l with
      | B => exact fun hm => hbl ((hT.queued hm).2.blocking rfl)
      | M => exact hnM
      | T => exact hnT

theorem live_absent (st : St) (i : Nat) (hg : getReq st i = none) (h : Live st (some i)) : Live st none :=
  ⟨h.nodup, h.qi, fun r hr hp _ => h.wake r hr hp fun he => by
    have := List.find?_eq_none.mp hg r hr
    simp only [Option.some.injEq] at he
    simp [he] at this⟩

theorem live_micro (st : St) (i : Nat) (hinv : Inv2 st) (h : Live st (some i)) :
    Live (runReq 1 st i) (bif continues st i then some i else none) :=
  runReq1_elim_flag st i (fun hg => live_absent st i hg h) fun _ hg hm => live_of_micro hg hm hinv h

/-! ## a task run -/

/-- the transport is only gone once the API is closed -/
def FlagInv (st : St) : Prop := st.transport = false → st.isOpen = false

/-- How many micro-steps the task of request `i` can still take before it blocks or ends.  In `waitT` without a
    transport the write is skipped and the task goes on over `acked` and `sendfrag` to be refused there: 3.
    `mrank` (`Proofs/HostRest.lean`) is this table plus one. -/
def rank (st : St) (i : Nat) : Nat :=
  match getReq st i with
  | none => 0
  | some r =>
    match r.phase with
    | .waitB => 5
    | .waitM => 4
    | .acked => if st.transport then 3 else 2
    | .sendfrag => if st.transport then 2 else 1
    | .waitT => if st.transport then 1 else 3
    | _ => 0

theorem flag_of_frame {st st' : St} (hf : Frame st st') (h : FlagInv st) : FlagInv st' := by
  intro ht; rw [hf.transport] at ht; rw [hf.isOpen]; exact h ht

theorem flag_runReq (fuel : Nat) (st : St) (i : Nat) (h : FlagInv st) : FlagInv (runReq fuel st i) :=
  flag_of_frame (frame_runReq fuel st i) h

theorem rank_micro {st st' : St} {i : Nat} {r : Req} (hg : getReq st i = some r) (hm : Micro st i r st' true)
    (hf : FlagInv st) : rank st' i < rank st i := by
  have htr : st'.transport = st.transport := (frame_micro hm).transport
  have get : ∀ {s : St} {r' : Req} {f : Req → Req}, getReq s i = some r' → (∀ x, (f x).id = x.id) →
      getReq (updReq s i f) i = some (f r') := fun h hid => by rw [getReq_updReq _ i _ hid, h]; rfl
  unfold rank
  rw [htr, hg]
  cases hm with
  | skipB hp => rw [get hg (by intro; rfl)]; simp only [hp]; decide
  | locked l hl hp =>
    rw [get (getReq_acquire st l i r hg) (by intro; rfl)]
    cases l with
    | B => cases st.transport <;> simp only [show r.phase = .waitB from hp, afterLock] <;> decide
    | M => cases st.transport <;> simp only [show r.phase = .waitM from hp, afterLock] <;> decide
    | T => exact absurd rfl hl
  | toWaitT hp ho =>
    -- the API is open, so the transport is there
    have : st.transport = true := by
      cases ht : st.transport with
      | true => rfl
      | false => rw [hf ht] at ho; cases ho
    rw [get hg (by intro; rfl)]; simp only [hp, this]; decide
  | skipWrite hp _ ht =>
    rw [(frame_acquire st .T i).transport] at ht
    rw [get (getReq_acquire st .T i r hg) (by intro; rfl)]; simp only [hp, ht]; decide
  | nextFrag hp =>
    rw [get (getReq_release st .T i r hg) (by intro; rfl)]; cases st.transport <;> simp only [hp] <;> decide
  | lastFrag hp =>
    rw [get (getReq_release _ .M i _ (getReq_release st .T i r hg)) (by intro; rfl)]
    cases st.transport <;> simp only [hp] <;> decide

theorem rank_decreases (st : St) (i : Nat) (hf : FlagInv st) :
    continues st i = true → rank (runReq 1 st i) i < rank st i :=
  runReq1_elim_flag st i (fun _ => nofun) fun _ hg hm hc => rank_micro hg (hc ▸ hm) hf

theorem rank_le (st : St) (i : Nat) : rank st i ≤ 5 := by
  unfold rank
  split
  · decide
  · split <;> first | decide | (split <;> decide)

/-- with enough fuel the task runs until it blocks or ends: the exemption is over afterwards -/
theorem live_runReq (fuel : Nat) (st : St) (i : Nat) (hinv : Inv2 st) (hf : FlagInv st) (h : Live st (some i))
    (hfuel : rank st i < fuel) : Live (runReq fuel st i) none := by
  induction fuel generalizing st with
  | zero => omega
  | succ n ih =>
    rw [runReq_succ]
    have hm := live_micro st i hinv h
    split
    · next hc =>
      rw [hc] at hm
      have hr := rank_decreases st i hf hc
      exact ih _ (inv2_runReq 1 st i hinv) (flag_runReq 1 st i hf) hm (by omega)
    · next hc => rw [Bool.not_eq_true] at hc; rw [hc] at hm; exact hm

theorem live_settle (fuel : Nat) (st : St) (hinv : Inv2 st) (hf : FlagInv st) (h : Live st none) :
    Live (settle fuel st) none := by
  induction fuel generalizing st with
  | zero => exact h
  | succ n ih =>
    unfold settle
    cases hr : st.ready with
    | nil => exact h
    | cons i rest =>
      have hinv' : Inv2 { st with ready := rest } := hinv.same
      -- the task taken off the ready queue is the one that runs
      have h' : Live { st with ready := rest } (some i) :=
        ⟨h.nodup, h.qi, fun r hrm hp hx => (h.wake r hrm hp nofun).imp
          (fun hw => (List.mem_cons.mp (hr ▸ hw)).resolve_left fun he => hx (by rw [he]))
          (parked_queues fun l => by cases l <;> rfl)⟩
      exact ih _ (inv2_runReq 64 _ i hinv') (flag_runReq 64 _ i hf)
        (live_runReq 64 _ i hinv' hf h' (by have := rank_le { st with ready := rest } i; omega))

/-! ## events -/

/-- `unwind` from outside a task (cancellation, response timeout) -/
theorem live_unwind_any (st : St) (i : Nat) (o : Outcome) (hinv : Inv2 st) (h : Live st none) :
    Live (unwind st i o) none := by
  cases hg : getReq st i with
  | some r => exact InTask.unwind ⟨h.weaken, hinv.1, hg⟩ o
  | none =>
    -- no such request: nothing is unwound, and `finish` finds no record to close
    have hreqs : (finish st i o).reqs = st.reqs :=
      (List.map_congr_left fun r hr => if_neg (List.find?_eq_none.mp hg r hr)).trans (List.map_id _)
    unfold unwind
    rw [unwindLock_none hg, unwindLock_none hg, unwindLock_none hg]
    exact h.same hreqs rfl rfl rfl rfl

/-- the queues stay; a request that leaves its acknowledgement wait was not waiting for a lock and keeps the locks it
    held; whoever stops being parked by the change is woken -/
theorem live_change {a b : St} (hc : Change a b) (hn : (a.reqs.map (·.id)).Nodup) (h : Live a none) : Live b none := by
  obtain ⟨g, keep, L, R, hg, hL, hR, hkeep, hwake⟩ := hc
  have hq : ∀ l, queue { a with reqs := a.reqs.map g, listeners := L, ready := R } l = queue a l := fun l => by
    cases l <;> rfl
  refine ⟨fun l => by rw [hq]; exact h.nodup l, fun l i hi => ?_, fun r' hr' hp' _ => ?_⟩
  · rw [hq] at hi
    obtain ⟨r, hrm, hri, hp, hd⟩ := h.qi l i hi
    refine ⟨g r, List.mem_map_of_mem hrm, (hg r).id_eq.trans hri, mt (hg r).done_iff.mp hp, ?_⟩
    rcases (hg r).phase with he | ⟨h1, h2⟩
    · exact Queued.congr he (hg r).blocking (fun k => ((hg r).holds l).trans k) hd
    · exact Queued.move (hg r).blocking ((hg r).holds l) (by rw [h1, h2]; cases l <;> decide) hd
  · obtain ⟨r, hrm, rfl⟩ := List.mem_map.mp hr'
    rw [(hg r).id_eq]
    by_cases hch : (g r).phase ≠ r.phase ∨ (r.phase = .waitRsp ∧ (g r).got ≠ r.got)
    · exact .inl (hwake hn r hrm hch)
    · -- neither the phase nor - in the response wait - the future has changed
      rw [not_or, Decidable.not_not, not_and, Decidable.not_not] at hch
      exact (h.wake r hrm (mt (hg r).done_iff.mpr hp') nofun).imp (hR _) fun hk =>
        (parked_queues hq hk).record (hg r).id_eq hch.1 hch.2

theorem live_eff (a b : St) (he : Eff a b) (hinv : Inv2 a) (h : Live a none) : Live b none := by
  cases he with
  | regs | emit | refuse | closeUart | lost => exact h.same rfl rfl rfl rfl rfl
  | add id key blocking nfrags timeout =>
    refine ⟨fun l => by cases l; exact h.nodup .B; exact h.nodup .M; exact h.nodup .T, fun l i hi => ?_,
      fun r hrm hp _ => ?_⟩
    · obtain ⟨r, hrm, hd⟩ := h.qi l i (by cases l <;> exact hi)
      exact ⟨r, List.mem_append_left _ hrm, hd⟩
    · rcases List.mem_append.mp hrm with hm | hm
      · exact (h.wake r hm hp nofun).imp (List.mem_append_left _) (parked_queues fun l => by cases l <;> rfl)
      · rw [List.mem_singleton.mp hm]; exact .inl (List.mem_append_right _ (List.mem_singleton.mpr rfl))
  | ackEnd c hc => exact live_change (.ackEnd a c hc) hinv.1 h
  | answer i => exact live_change (.answer a i) hinv.1 h
  | cancelAll => exact live_change (.cancelAll a) hinv.1 h
  | unwind i o => exact live_unwind_any _ i o hinv h

theorem live_pre (st : St) (e : Ev) (hinv : Inv2 st) (hcov : CoveredV (view st)) (h : Live st none) :
    Live (pre st e).1 none :=
  (pre_ind (P := fun s => Inv2 s ∧ Live s none) (fun a b he ⟨h1, h2⟩ => ⟨inv2_eff a b he h1, live_eff a b he h1 h2⟩)
    (fun a _ ⟨h1, h2⟩ => ⟨h1.same, h2.same rfl rfl rfl rfl rfl⟩) st e
    ⟨hinv.same, h.same rfl rfl rfl rfl rfl⟩).2

theorem flag_eff (a b : St) (he : Eff a b) (h : FlagInv a) : FlagInv b := by
  cases he with
  | regs | emit | refuse | add | ackEnd | cancelAll => exact h
  | answer i => rw [answer_eq]; exact h
  | unwind i o => exact flag_of_frame (frame_unwind _ _ _) h
  | closeUart | lost => intro _; rfl

theorem flag_pre (st : St) (e : Ev) (h : FlagInv st) : FlagInv (pre st e).1 :=
  pre_ind flag_eff (fun _ _ _ ht => by cases ht) st e h

/-- the invariants the liveness argument needs, in one bundle -/
structure Good (st : St) : Prop where
  both : ∃ hist, Both hist st
  live : Live st none
  flags : FlagInv st
  cov : CoveredV (view st)

theorem Good.inv {st : St} (h : Good st) : Inv2 st := by
  obtain ⟨_, hb⟩ := h.both; exact hb.1

theorem good_init : Good {} :=
  ⟨⟨[], both_init⟩,
   ⟨fun l => (by cases l <;> exact List.nodup_nil), fun l i hi => (by cases l <;> cases hi), fun r hr => (by cases hr)⟩,
   fun h => (by cases h), fun c hc => (by cases hc)⟩

theorem good_step (st : St) (e : Ev) (h : Good st) : Good (step st e) := by
  obtain ⟨hist, hb⟩ := h.both
  refine ⟨⟨_, both_step hist st e hb⟩, ?_, flag_of_frame (frame_step st e) (flag_pre st e h.flags),
    view_step cov_micro st e h.inv (cov_pre st e h.cov)⟩
  have hl := live_pre st e h.inv h.cov h.live
  rw [step_eq_pre]
  cases (pre st e).2
  · exact hl
  · exact live_settle _ _ (inv2_pre st e h.inv) (flag_pre st e h.flags) hl

theorem good_reachable (evs : List Ev) : Good (runEvents {} evs).1 :=
  reachable_ind good_init (fun _ e h => good_step _ e h) evs

/-! ## drain -/

/-- no stranding: at a point where no task is runnable, a request that is still running is waiting - directly or
    through a chain of locks - for an acknowledgement wait or a response wait that is still pending; if there is
    neither, nothing is running -/
theorem drain (st : St) (hl : Live st none) (hrd : st.ready = [])
    (hna : ∀ r ∈ st.reqs, r.phase ≠ .waitAck)
    (hnr : ∀ r ∈ st.reqs, r.phase = .waitRsp → r.got ≠ .nothing) : ∀ r ∈ st.reqs, r.phase = .done := by
  -- a running request is parked, and only a lock can be the reason
  have hpark : ∀ r ∈ st.reqs, r.phase ≠ .done →
      ∃ l, r.phase = waitPhase l ∧ r.id ∈ queue st l ∧ (queue st l).head? ≠ some r.id := by
    intro r hrm hp
    rcases hl.parked hrd hrm hp with hw | hw | ⟨hw1, hw2⟩
    · exact hw
    · exact absurd hw (hna r hrm)
    · exact absurd hw2 (hnr r hrm hw1)
  -- Nobody waits for lock `l` if nobody waits for a lock that is taken while `l` is held (T inside M inside B):
  -- the head of `l`'s queue would be parked behind itself, or hold `l` and wait for one of those.
  have step : ∀ l, (∀ l', lockPhase l (waitPhase l') = true → ∀ r ∈ st.reqs, r.phase ≠ .done → r.phase ≠ waitPhase l') →
      ∀ r ∈ st.reqs, r.phase ≠ .done → r.phase ≠ waitPhase l := by
    intro l ih r hrm hp hph
    obtain ⟨l', h1, h2, _⟩ := hpark r hrm hp
    obtain rfl : l' = l := waitPhase_inj (h1.symm.trans hph)
    obtain ⟨a, t, hq⟩ := List.exists_cons_of_ne_nil (List.ne_nil_of_mem h2)
    obtain ⟨ra, hram, hrai, hrap, hd⟩ := hl.qi l' a (by rw [hq]; exact List.mem_cons_self ..)
    obtain ⟨k, k1, _, k3⟩ := hpark ra hram hrap
    rcases hd with hw | ⟨_, hd⟩
    · obtain rfl : k = l' := waitPhase_inj (k1.symm.trans hw.1)
      exact k3 (by rw [hrai, hq]; rfl)
    · exact ih k (by rw [← k1]; exact (heldPhase_iff.mp hd).1) ra hram hrap k1
  have hT := step .T fun l' h => by cases l' <;> cases h
  have hM := step .M fun l' h => by cases l' with | T => exact hT | B | M => cases h
  have hB := step .B fun l' h => by cases l' with | T => exact hT | M => exact hM | B => cases h
  intro r hrm
  refine Decidable.byContradiction fun hp => ?_
  obtain ⟨l, h1, _⟩ := hpark r hrm hp
  cases l with
  | B => exact hB r hrm hp h1
  | M => exact hM r hrm hp h1
  | T => exact hT r hrm hp h1

theorem drain_shut (st : St) (hg : Good st) (hs : Shut st) (hrd : st.ready = [])
    (hna : ∀ r ∈ st.reqs, r.phase ≠ .waitAck) : ∀ r ∈ st.reqs, r.phase = .done :=
  drain st hg.live hrd hna fun _ hrm hp => no_listener_no_wait hg.cov hs.2 hrm (by rw [hp]; decide)

end Zboss.Host
