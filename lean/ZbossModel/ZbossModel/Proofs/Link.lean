import ZbossModel.Proofs.RxLog
import ZbossModel.Link
/-! The transmit sequence number under `ackStep`; the three outcomes of `grant` (`grant_cases`); what one event does to
    the transmit lock (`step_cases`). -/
namespace Zboss.Link
open Gen Rx

theorem dataReceived_seq (h : Frame → Bool) (st : RxState) (data : Bytes) :
    ((dataReceived h st data).1.packSeq, (dataReceived h st data).1.eventSet) =
      (run tryFrame (st.buf ++ data)).1.foldl (ackStep st.hasEvent) (st.packSeq, st.eventSet) :=
  (dataReceived_out h st data).2.2.2

theorem ackStep_fst (he : Bool) (s : Nat × Bool) (f : Frame) :
    (ackStep he s f).1 = if isAck f ∧ ackSeqOf f = s.1 then s.1 % 3 + 1 else s.1 :=
  apply_ite Prod.fst ..

theorem fold_ackStep_range (he : Bool) (fs : List Frame) (s : Nat × Bool) (h : s.1 ≤ 3) :
    (fs.foldl (ackStep he) s).1 ≤ 3 := by
  induction fs generalizing s with
  | nil => exact h
  | cons f fs ih => exact ih _ (by rw [ackStep_fst]; split <;> omega)

theorem fold_ackStep_noack (he : Bool) (fs : List Frame) (s : Nat × Bool) (h : ∀ f ∈ fs, isAck f = false) :
    fs.foldl (ackStep he) s = s := by
  induction fs generalizing s with
  | nil => rfl
  | cons f fs ih =>
    rw [List.foldl_cons, ackStep, if_neg (by simp [h f List.mem_cons_self])]
    exact ih s fun g hg => h g (List.mem_cons_of_mem _ hg)

def isWrote : Out → Bool
  | .wrote _ _ => true
  | _ => false

/-- without a transport every waiting sender completes at once; with one, the oldest waiting sender (if any) has its
    frame written and holds the lock -/
theorem grant_cases (st : St) (q : List (Nat × Frame)) :
    (st.rx.transport = false ∧ grant st q = ({ st with queue := [] }, q.map fun x => .done x.1)) ∨
    (q = [] ∧ grant st q = ({ st with queue := [] }, [])) ∨
    ∃ i f rest, st.rx.transport = true ∧ q = (i, f) :: rest ∧
      grant st q = ({ st with rx := { st.rx with hasEvent := true, eventSet := false },
                              holder := some ⟨i, st.now + Gen.ackTimeoutMs⟩, queue := rest },
                    [.wire (Frame.stamp st.rx.packSeq f).serialize, .wrote i st.rx.packSeq]) := by
  rcases q with _ | ⟨⟨i, f⟩, rest⟩
  · exact .inr (.inl ⟨rfl, rfl⟩)
  cases ht : st.rx.transport with
  | true => exact .inr (.inr ⟨i, f, rest, rfl, rfl, by simp [grant, ht]⟩)
  | false =>
    refine .inl ⟨rfl, ?_⟩
    induction (i, f) :: rest with
    | nil => rfl
    | cons x rest ih => simp [grant, ht, ih]

theorem grant_packSeq (st : St) (q : List (Nat × Frame)) : (grant st q).1.rx.packSeq = st.rx.packSeq := by
  rcases grant_cases st q with ⟨_, h⟩ | ⟨_, h⟩ | ⟨_, _, _, _, _, h⟩ <;> rw [h]

theorem grant_wrote (st : St) (q : List (Nat × Frame)) (j s : Nat) (h : Out.wrote j s ∈ (grant st q).2) :
    ∃ f rest, q = (j, f) :: rest ∧ s = st.rx.packSeq ∧ st.rx.transport = true := by
  rcases grant_cases st q with ⟨_, hg⟩ | ⟨_, hg⟩ | ⟨i, f, rest, ht, rfl, hg⟩ <;> rw [hg] at h
  · simp at h
  · cases h
  · obtain ⟨rfl, rfl⟩ : j = i ∧ s = st.rx.packSeq := by simpa using h
    exact ⟨f, rest, rfl, rfl, ht⟩

/-- an output that neither writes a data frame nor ends the wait of the sender `o` -/
def passive (o : Option Nat) : Out → Bool
  | .wire _ | .deliver _ => true
  | .done i | .cancelled i => o != some i
  | .wrote _ _ => false

theorem rxOuts_passive (o : Option Nat) (l : List Rx.Out) : ∀ x ∈ rxOuts l, passive o x = true :=
  List.forall_mem_map.mpr fun x _ => by cases x <;> rfl

inductive WaitEnds (st : St) (h : Holder) : Ev → Out → Prop
  | ack (data : Bytes) : (dataReceived (fun _ => false) st.rx data).1.eventSet = true →
      WaitEnds st h (.rx data) (.done h.id)
  | expiry : WaitEnds st h .tick (.done h.id)
  | cancel : WaitEnds st h (.cancel h.id) (.cancelled h.id)

/-- the event leaves the lock alone; or an idle link takes the new sender; or the holder's wait ends, the holder
    completes and the lock passes on -/
theorem step_cases (st : St) (e : Ev) :
    ((step st e).1.holder = st.holder ∧ (st.holder = none → (step st e).1.queue = st.queue) ∧
        ∀ o ∈ (step st e).2, passive (st.holder.map (·.id)) o = true) ∨
    (st.holder = none ∧ ∃ i f, e = .send i f ∧ step st e = grant st (st.queue ++ [(i, f)])) ∨
    (∃ h fin st1 l, st.holder = some h ∧ WaitEnds st h e fin ∧ st1.queue = st.queue ∧
        step st e = ((release st1).1, rxOuts l ++ fin :: (release st1).2)) := by
  cases hh : st.holder with
  | none =>
    cases e with
    | send i f => exact .inr (.inl ⟨rfl, i, f, rfl, by simp [step, hh]⟩)
    | rx data => exact .inl (by simp only [step, hh, true_and, implies_true]; exact rxOuts_passive _ _)
    | _ => exact .inl (by simp [step, hh])
  | some h =>
    cases e with
    | rx data =>
      cases hev : (dataReceived (fun _ => false) st.rx data).1.eventSet
      · exact .inl (by
          simp only [step, hh, hev, Bool.false_eq_true, if_false]; exact ⟨trivial, nofun, rxOuts_passive _ _⟩)
      · exact .inr (.inr ⟨h, _, { st with rx := (dataReceived (fun _ => false) st.rx data).1 },
          (dataReceived (fun _ => false) st.rx data).2, rfl, .ack data hev, rfl,
          by simp only [step, hh, hev, if_true]⟩)
    | tick => exact .inr (.inr ⟨h, _, { st with now := max st.now h.deadline }, [], rfl, .expiry, rfl, by simp [step, hh, rxOuts]⟩)
    | cancel i =>
      by_cases hi : h.id = i
      · subst hi
        exact .inr (.inr ⟨h, _, st, [], rfl, .cancel, rfl, by simp [step, hh, rxOuts]⟩)
      · refine .inl ?_
        simp only [step, hh, hi, if_false]
        split
        · exact ⟨rfl, nofun, List.forall_mem_singleton.2 (bne_iff_ne.2 fun e => hi (Option.some.inj e))⟩
        · exact ⟨hh, nofun, List.forall_mem_nil _⟩
    | _ => exact .inl (by simp [step, hh])

end Zboss.Link
