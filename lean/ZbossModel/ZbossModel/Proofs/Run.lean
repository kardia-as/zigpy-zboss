/-! Runs that keep a log.  `Link.runEvents`, `Dispatch.runEvents` and `Reasm.feedFrames` are `runLog step` by `rfl`: a
    `foldl` of a step function `state → event → state × output` that appends each step's output to a log. -/
namespace Zboss
variable {σ ε ω : Type} (step : σ → ε → σ × ω)

def runLog (s : σ) (evs : List ε) : σ × List ω :=
  evs.foldl (fun acc e => let r := step acc.1 e; (r.1, acc.2 ++ [r.2])) (s, [])

theorem foldl_log (s : σ) (log : List ω) (evs : List ε) :
    evs.foldl (fun acc e => let r := step acc.1 e; (r.1, acc.2 ++ [r.2])) (s, log) =
      ((runLog step s evs).1, log ++ (runLog step s evs).2) := by
  induction evs generalizing s log with
  | nil => simp [runLog]
  | cons e es ih => rw [runLog, List.foldl_cons, List.foldl_cons, ih, ih _ ([] ++ _)]; simp

theorem runLog_cons (s : σ) (e : ε) (es : List ε) :
    runLog step s (e :: es) = ((runLog step (step s e).1 es).1, (step s e).2 :: (runLog step (step s e).1 es).2) := by
  rw [runLog, List.foldl_cons, foldl_log]; rfl

theorem runLog_append (s : σ) (a b : List ε) :
    runLog step s (a ++ b) =
      ((runLog step (runLog step s a).1 b).1, (runLog step s a).2 ++ (runLog step (runLog step s a).1 b).2) := by
  rw [runLog, List.foldl_append]; exact foldl_log step (runLog step s a).1 (runLog step s a).2 b

theorem runLog_induction (P : σ → List ω → Prop) (s : σ) (evs : List ε) (h0 : P s [])
    (hs : ∀ s log e, P s log → P (step s e).1 (log ++ [(step s e).2])) :
    P (runLog step s evs).1 (runLog step s evs).2 := by
  suffices h : ∀ s log, P s log →
      let r := evs.foldl (fun acc e => let r := step acc.1 e; (r.1, acc.2 ++ [r.2])) (s, log); P r.1 r.2 from h s [] h0
  induction evs with
  | nil => exact fun _ _ h => h
  | cons e es ih => exact fun s log h => ih _ _ (hs s log e h)

end Zboss
