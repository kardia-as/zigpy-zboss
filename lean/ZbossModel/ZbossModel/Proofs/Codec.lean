import ZbossModel.Codec
import ZbossModel.Proofs.Wire
/-! The `from_frame` loop, taken apart: it runs the field decoders as far as they succeed (`Reads`, a fact about the
    decoders alone) and then stops in one of two ways - no field left (`parseLoop_nil`) or a decoder refusing
    (`parseLoop_error`: the `except ValueError` branch, `onError`).  Both directions of C04 / C15 are read off this. -/
namespace Zboss.Codec
open Wire

theorem encParams_append (d1 d2 : List FView) (a1 a2 : Assign) (hl : a1.length = d1.length) :
    encParams (d1 ++ d2) (a1 ++ a2) = encParams d1 a1 ++ encParams d2 a2 := by
  induction d1 generalizing a1 with
  | nil => cases List.eq_nil_of_length_eq_zero hl; cases d2 <;> cases a2 <;> rfl
  | cons f d1 ih =>
    obtain _ | ⟨x, a1⟩ := a1
    · cases hl
    · cases x <;> simp only [List.cons_append, encParams, ih a1 (Nat.succ.inj hl), List.append_assoc]

theorem allEnc_append (d1 d2 : List FView) (a1 a2 : Assign) (hl : a1.length = d1.length) :
    allEnc (d1 ++ d2) (a1 ++ a2) = (allEnc d1 a1 && allEnc d2 a2) := by
  unfold allEnc
  rw [List.zip_append hl.symm, List.all_append]

theorem encParams_nones (fs : List FView) (xs : Assign) (h : xs.all (·.isNone) = true) : encParams fs xs = [] := by
  induction fs generalizing xs with
  | nil => cases xs <;> rfl
  | cons f fs ih =>
    obtain _ | ⟨_ | x, xs⟩ := xs
    · rfl
    · exact ih xs (by simpa using h)
    · simp at h

/-- what `cls(**params)` asks of one slot -/
def slotOk (p : FView × Option Val) : Bool :=
  match p.2 with
  | none => p.1.optional
  | some val => (encW p.1.wt val).isSome

theorem mkOk_iff {v : View} {a : Assign} : mkOk v a = true ↔
    a.length = v.fields.length ∧ (v.fields.zip a).all slotOk = true ∧ optPrefixOk v.fields a = true := by
  rw [mkOk, Bool.and_eq_true, Bool.and_eq_true, beq_iff_eq, and_assoc]
  rfl

theorem mkOk_allEnc (v : View) (a : Assign) (h : mkOk v a = true) : allEnc v.fields a = true := by
  refine List.all_eq_true.mpr fun p hp => ?_
  have := List.all_eq_true.mp (mkOk_iff.mp h).2.1 p hp
  obtain ⟨f, _ | x⟩ := p
  · rfl
  · exact this

theorem dropParam_id (done : List FView) (acc : Assign) (p : Nat) (hlen : acc.length = done.length)
    (h : ∀ g ∈ done, g.param ≠ p) : dropParam done acc p = acc := by
  induction done generalizing acc with
  | nil => cases List.eq_nil_of_length_eq_zero hlen; rfl
  | cons g done ih =>
    obtain _ | ⟨x, acc⟩ := acc
    · cases hlen
    · simp only [dropParam, List.zip_cons_cons, List.map_cons, h g (by simp), if_false]
      exact congrArg _ (ih acc (Nat.succ.inj hlen) fun g' hg' => h g' (by simp [hg']))

theorem finish_ok {v : View} {d d' : Decoded} (h : finish v d = .ok d') :
    d' = d ∧ (match d with | .full a => mkOk v a | .partialCmd a => allEnc v.fields a) = true := by
  cases d <;> rcases ite_eq h with ⟨hc, h⟩ | ⟨-, h⟩ <;> cases h
  all_goals exact ⟨rfl, hc⟩

theorem parseLoop_nil (v : View) (done : List FView) (acc : Assign) (data : Bytes) :
    parseLoop v done [] acc data = if data.isEmpty then finish v (.full acc) else .error .valueError := by
  rw [parseLoop]

section
variable {v : View} {done : List FView} {f : FView} {rest : List FView} {acc : Assign} {data : Bytes}

theorem parseLoop_ok {data' : Bytes} {x : Val} (h : decW f.wt data = .ok (x, data')) :
    parseLoop v done (f :: rest) acc data = parseLoop v (done ++ [f]) rest (acc ++ [some x]) data' := by
  rw [parseLoop, h]

/-- the `except ValueError:` branch at field `f` -/
def onError (v : View) (done : List FView) (f : FView) (rest : List FView) (acc : Assign) (data : Bytes) :
    Except Err Decoded :=
  let a : Assign := dropParam done acc f.param ++ (f :: rest).map fun _ => none
  if ctype v = 1 then
    match v.statusIdx with
    | none => .error .keyError
    | some si =>
      if si < (dropParam done acc f.param).length ∧ ((dropParam done acc f.param).getD si none).isSome then
        if !isZeroStatus ((dropParam done acc f.param).getD si none) then finish v (.partialCmd a)
        else if data.isEmpty && f.optional then finish v (.full a)
        else .error .valueError
      else .error .keyError
  else if data.isEmpty && f.optional then finish v (.full a)
  else .error .valueError

theorem parseLoop_error {e : Err} (h : decW f.wt data = .error e) :
    parseLoop v done (f :: rest) acc data = onError v done f rest acc data := by
  cases decW_error_kind _ _ _ h
  rw [parseLoop, h]
  rfl

theorem onError_ok {d : Decoded} (h : onError v done f rest acc data = .ok d) :
    let a := dropParam done acc f.param ++ (f :: rest).map fun _ => none
    d = .partialCmd a ∧ allEnc v.fields a = true ∨ d = .full a ∧ mkOk v a = true ∧ data = [] ∧ f.optional = true := by
  have ended {x} (h : (if data.isEmpty && f.optional then finish v (.full x) else .error .valueError) = .ok d) :
      d = .full x ∧ mkOk v x = true ∧ data = [] ∧ f.optional = true := by
    rcases ite_eq h with ⟨hc, h⟩ | ⟨-, h⟩
    · rw [Bool.and_eq_true, List.isEmpty_iff] at hc
      exact ⟨(finish_ok h).1, (finish_ok h).2, hc⟩
    · cases h
  -- `split at h` is slow on a term of this size: the branches are walked by hand with `ite_eq`
  unfold onError at h
  rcases ite_eq h with ⟨-, h⟩ | ⟨-, h⟩
  · cases hsi : v.statusIdx <;> rw [hsi] at h
    · cases h
    · rcases ite_eq h with ⟨-, h⟩ | ⟨-, h⟩
      · rcases ite_eq h with ⟨-, h⟩ | ⟨-, h⟩
        · exact .inl (finish_ok h)
        · exact .inr (ended h)
      · cases h
  · exact .inr (ended h)

/-- `params["StatusCode"]` raises `KeyError` -/
theorem onError_early {si : Nat} (hrsp : ctype v = 1) (hsi : v.statusIdx = some si) (hlen : acc.length ≤ si) :
    onError v done f rest acc data = .error .keyError := by
  have : ¬ si < (dropParam done acc f.param).length := by
    rw [dropParam, List.length_map, List.length_zip]; omega
  simp only [onError, hrsp, hsi, this, false_and, if_true, if_false]

theorem onError_not_rsp (h : ctype v ≠ 1) : onError v done f rest acc data =
    if data.isEmpty && f.optional then finish v (.full (dropParam done acc f.param ++ (f :: rest).map fun _ => none))
    else .error .valueError := by
  rw [onError, if_neg h]

end

inductive Reads : List FView → Bytes → List Val → Bytes → Prop
  | nil (d) : Reads [] d [] d
  | cons {f fs d x d' xs d''} : decW f.wt d = .ok (x, d') → Reads fs d' xs d'' → Reads (f :: fs) d (x :: xs) d''

theorem Reads.length {fs d xs d'} (h : Reads fs d xs d') : xs.length = fs.length := by
  induction h with
  | nil => rfl
  | cons _ _ ih => simp [ih]

theorem parseLoop_reads {v : View} {mid : List FView} {data : Bytes} {xs : List Val} {data' : Bytes}
    (h : Reads mid data xs data') (done rest : List FView) (acc : Assign) :
    parseLoop v done (mid ++ rest) acc data = parseLoop v (done ++ mid) rest (acc ++ xs.map some) data' := by
  induction h generalizing done acc with
  | nil => simp
  | cons hd _ ih => rw [List.cons_append, parseLoop_ok hd, ih]; simp

theorem reads_maximal (fs : List FView) (data : Bytes) : ∃ mid xs data' rest, fs = mid ++ rest ∧ Reads mid data xs data' ∧
    (rest = [] ∨ ∃ f r e, rest = f :: r ∧ decW f.wt data' = .error e) := by
  induction fs generalizing data with
  | nil => exact ⟨[], [], data, [], rfl, .nil _, .inl rfl⟩
  | cons f fs ih =>
    cases hd : decW f.wt data with
    | error e => exact ⟨[], [], data, f :: fs, rfl, .nil _, .inr ⟨f, fs, e, rfl, hd⟩⟩
    | ok p =>
      obtain ⟨mid, xs, data', rest, rfl, hr, hstop⟩ := ih p.2
      exact ⟨f :: mid, p.1 :: xs, data', rest, rfl, .cons hd hr, hstop⟩

theorem parseLoop_stops (v : View) (fs : List FView) (data : Bytes) : ∃ mid xs data' rest,
    fs = mid ++ rest ∧ Reads mid data xs data' ∧
    ((rest = [] ∧ parseLoop v [] fs [] data = if data'.isEmpty then finish v (.full (xs.map some)) else .error .valueError) ∨
     (∃ f r, rest = f :: r ∧ parseLoop v [] fs [] data = onError v mid f r (xs.map some) data')) := by
  obtain ⟨mid, xs, data', rest, rfl, hr, hstop⟩ := reads_maximal fs data
  refine ⟨mid, xs, data', rest, rfl, hr, ?_⟩
  rw [parseLoop_reads hr, List.nil_append, List.nil_append]
  rcases hstop with rfl | ⟨f, r, e, rfl, he⟩
  · exact .inl ⟨rfl, parseLoop_nil ..⟩
  · exact .inr ⟨f, r, rfl, parseLoop_error he⟩

def givenOk : List FView → List Val → Bool
  | [], [] => true
  | f :: fs, x :: xs => !f.wt.isGreedy && (encW f.wt x).isSome && givenOk fs xs
  | _, _ => false

def encGiven : List FView → List Val → Bytes
  | f :: fs, x :: xs => (encW f.wt x).getD [] ++ encGiven fs xs
  | _, _ => []

theorem encParams_given (pre : List FView) (xs : List Val) : encParams pre (xs.map some) = encGiven pre xs := by
  induction pre generalizing xs with
  | nil => cases xs <;> rfl
  | cons f pre ih => cases xs <;> simp only [List.map_nil, List.map_cons, encParams, encGiven, ih]

theorem reads_given (pre : List FView) (xs : List Val) (h : givenOk pre xs = true) (tail : Bytes) :
    Reads pre (encGiven pre xs ++ tail) xs tail := by
  induction pre generalizing xs with
  | nil => cases xs with
    | nil => exact .nil _
    | cons _ _ => simp [givenOk] at h
  | cons f pre ih =>
    cases xs with
    | nil => simp [givenOk] at h
    | cons x xs =>
      simp only [givenOk, Bool.and_eq_true, Bool.not_eq_true'] at h
      obtain ⟨b, hb⟩ := Option.isSome_iff_exists.mp h.1.2
      simp only [encGiven, hb, Option.getD_some, List.append_assoc]
      exact .cons (decW_encW f.wt x b _ h.1.1 hb) (ih xs h.2)

theorem givenOk_length (pre : List FView) (xs : List Val) (h : givenOk pre xs = true) : xs.length = pre.length :=
  (reads_given pre xs h []).length

theorem parse_prefix (v : View) (pre : List FView) (xs : List Val) (h : givenOk pre xs = true) (rest : List FView)
    (tail : Bytes) :
    parseLoop v [] (pre ++ rest) [] (encGiven pre xs ++ tail) = parseLoop v pre rest (xs.map some) tail :=
  parseLoop_reads (reads_given pre xs h tail) [] rest []

/-- `from_frame` on bytes that stop being decodable at field `f`; an encoding cut short is one case (`decW_truncated`) -/
theorem fromPayload_refused {v : View} {pre post : List FView} {f : FView} {xs : List Val} {d : Bytes} {e : Err}
    (hfields : v.fields = pre ++ f :: post) (hpre : givenOk pre xs = true) (he : decW f.wt d = .error e) :
    fromPayload v (encGiven pre xs ++ d) = onError v pre f post (xs.map some) d := by
  rw [fromPayload, hfields, parse_prefix v pre xs hpre, parseLoop_error he]

theorem onError_rsp_given {v : View} {pre post : List FView} {f : FView} {xs : List Val} {d : Bytes}
    (hrsp : ctype v = 1) (hsi : v.statusIdx = some 2) (hl : xs.length = pre.length) (h3 : 3 ≤ pre.length)
    (hown : ∀ g ∈ pre, g.param ≠ f.param) :
    onError v pre f post (xs.map some) d =
      if !isZeroStatus ((xs.map some).getD 2 none) then finish v (.partialCmd (xs.map some ++ (f :: post).map fun _ => none))
      else if d.isEmpty && f.optional then finish v (.full (xs.map some ++ (f :: post).map fun _ => none))
      else .error .valueError := by
  have h2 : 2 < xs.length := hl ▸ h3
  have hlen : 2 < (xs.map some).length := by rw [List.length_map]; exact h2
  have hs : ((xs.map some).getD 2 none).isSome = true := by simp [List.getD_eq_getElem?_getD, h2]
  have hd := dropParam_id pre (xs.map some) f.param (by rw [List.length_map, hl]) hown
  simp only [onError, hrsp, hsi, hd, hlen, hs, and_self, if_true]

theorem decW_empty (w : WT) (hg : w.isGreedy = false) (hm : 0 < minSize w) : decW w [] = .error .valueError := by
  cases w with
  | sc t => simp only [decW, decS_short t [] hm]
  | lvBytes h => simp only [minSize] at hm; simp [decW, hm]
  | lvList h ts => simp only [minSize] at hm; simp [decW, hm]
  | greedy ts => cases hg
  | simpleDesc => simp only [decW, decRec_short [ST.uint 1, .uint 2, .uint 2, .uint 1, .uint 1, .uint 1] [] (by decide)]

theorem fieldsOk_tail (f : FView) (fs : List FView) (hf : fieldsOk (f :: fs) = true) : fieldsOk fs = true := by
  cases fs with
  | nil => rfl
  | cons g r => simp only [fieldsOk, Bool.and_eq_true] at hf; exact hf.2

theorem isGreedy_iff {w : WT} : w.isGreedy = true ↔ ∃ ts, w = .greedy ts := by
  cases w <;> simp [WT.isGreedy]

theorem greedy_last (f : FView) (fs : List FView) (hf : fieldsOk (f :: fs) = true) (hg : f.wt.isGreedy = true) : fs = [] := by
  cases fs with
  | nil => rfl
  | cons g r => simp [fieldsOk, hg] at hf

theorem optionals_trailing (f : FView) (fs : List FView) (hf : fieldsOk (f :: fs) = true) (hopt : f.optional = true)
    (hg : f.wt.isGreedy = false) : fs.all (·.optional) = true ∧ 0 < minSize f.wt := by
  cases fs with
  | nil => simp [fieldsOk, hg, hopt] at hf; exact ⟨rfl, hf.2⟩
  | cons g r => simp [fieldsOk, hg, hopt] at hf; exact ⟨by simpa using hf.1.2, hf.1.1⟩

/-- after its run `pre` of given, non-greedy parameters a constructible assignment ends: with the schema, with a
    greedy list (given or not), or with the first optional parameter left out - and then all later ones are -/
theorem mkOk_split (fs : List FView) (a : Assign) (hf : fieldsOk fs = true) (hl : a.length = fs.length)
    (hs : (fs.zip a).all slotOk = true) (hp : optPrefixOk fs a = true) :
    ∃ pre xs rest tail, fs = pre ++ rest ∧ a = xs.map some ++ tail ∧ givenOk pre xs = true ∧
      (rest = [] ∧ tail = [] ∨
       (∃ g ts rs, rest = [g] ∧ tail = [some (.rows rs)] ∧ g.wt = .greedy ts ∧ 0 < recSize ts ∧
          (encRows ts rs).isSome = true) ∨
       (∃ g ts, rest = [g] ∧ tail = [none] ∧ g.wt = .greedy ts ∧ g.optional = true) ∨
       (∃ f r, rest = f :: r ∧ tail = (f :: r).map (fun _ => none) ∧ f.optional = true ∧ f.wt.isGreedy = false ∧
          0 < minSize f.wt)) := by
  induction fs generalizing a with
  | nil => cases List.eq_nil_of_length_eq_zero hl; exact ⟨[], [], [], [], rfl, rfl, rfl, .inl ⟨rfl, rfl⟩⟩
  | cons f fs ih =>
    obtain _ | ⟨x, a⟩ := a
    · cases hl
    have hl' : a.length = fs.length := Nat.succ.inj hl
    simp only [List.zip_cons_cons, List.all_cons, Bool.and_eq_true] at hs
    by_cases hg : f.wt.isGreedy = true
    · cases greedy_last f fs hf hg
      cases List.eq_nil_of_length_eq_zero hl'
      obtain ⟨ts, hts⟩ := isGreedy_iff.mp hg
      refine ⟨[], [], [f], [x], rfl, rfl, rfl, .inr ?_⟩
      cases x with
      | none => exact .inr (.inl ⟨f, ts, rfl, rfl, hts, hs.1⟩)
      | some val =>
        have he : (encW (.greedy ts) val).isSome = true := hts ▸ hs.1
        cases val <;> simp only [encW, Option.isSome_none, Bool.false_eq_true] at he
        exact .inl ⟨f, ts, _, rfl, rfl, hts, by simpa [fieldsOk, hts, greedyOk, WT.isGreedy] using hf, he⟩
    · have hg' : f.wt.isGreedy = false := by simpa using hg
      cases x with
      | some val =>
        rw [optPrefixOk, Option.isNone_some, Bool.and_false, if_neg Bool.false_ne_true] at hp
        obtain ⟨pre, xs, rest, tail, rfl, rfl, hpre, hcase⟩ := ih a (fieldsOk_tail f fs hf) hl' hs.2 hp
        exact ⟨f :: pre, val :: xs, rest, tail, rfl, rfl,
          by simp only [givenOk, hg', hpre, Bool.not_false, Bool.true_and, Bool.and_true]; exact hs.1, hcase⟩
      | none =>
        have hopt : f.optional = true := hs.1
        obtain ⟨hall, hmin⟩ := optionals_trailing f fs hf hopt hg'
        simp only [optPrefixOk, hopt, Option.isNone_none, Bool.and_self, if_true, Bool.and_eq_true] at hp
        refine ⟨[], [], f :: fs, none :: a, rfl, rfl, rfl, .inr (.inr (.inr ⟨f, fs, rfl, ?_, hopt, hg', hmin⟩))⟩
        -- every later parameter is optional, hence left out too
        rw [List.map_cons, List.cons.injEq, eq_self, true_and]
        apply List.ext_getElem (by simpa using hl')
        intro i h1 h2
        have hi : i < fs.length := by simpa using h2
        have := List.all_eq_true.mp hp.1 (fs[i], a[i]) (by
          rw [List.mem_iff_getElem]; exact ⟨i, by simpa [hl'] using hi, by simp⟩)
        rw [List.getElem_map]
        simpa [List.all_eq_true.mp hall fs[i] (List.getElem_mem hi)] using this.symm

end Zboss.Codec
