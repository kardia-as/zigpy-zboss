import ZbossModel.Proofs.Wire
/-! The decoders never invent bytes: whenever a decoded value is one the encoder accepts, re-encoding it gives
    back exactly the bytes that were consumed (C15: "never mis-parsed"). -/
namespace Zboss.Wire

theorem u16s_valRows : ∀ n x, u16s ((valRows [.uint 2] n x).map fun r => natOf (r.headD (.num 0))) = valRows [.uint 2] n x
  | 0, _ => rfl
  | n + 1, x => by
    have := u16s_valRows n (x.drop (recSize [.uint 2]))
    simp only [u16s] at this
    simp only [valRows, valRec, valS, u16s, List.map_cons, List.headD_cons, natOf_num, this]
    rfl

theorem decW_sound (w : WT) (data : Bytes) (val : Val) (rest b : Bytes)
    (hgr : ∀ ts, w = .greedy ts → 0 < recSize ts)
    (h : decW w data = .ok (val, rest)) (he : encW w val = some b) : data = b ++ rest := by
  rcases encW_some he with ⟨t, x, rfl, rfl, hx⟩ | ⟨hd, x, rfl, rfl, hx, rfl⟩ | ⟨hd, ts, rs, c, rfl, rfl, hl, hc, rfl⟩ |
    ⟨ts, rs, rfl, rfl, hc⟩ | ⟨ep, pr, dt, dv, ins, outs, a, c, rfl, rfl, ha, hc, rfl⟩
  all_goals simp only [decW] at h
  · split at h <;> cases h
    next hd => exact (fixedS t).sound hd hx
  · split at h
    · cases h
    · split at h <;> cases h
      next h1 h2 =>
      rw [List.length_take, List.length_drop, Nat.min_eq_left (Nat.le_sub_of_add_le' (Nat.not_lt.1 h2)),
        toLE_fromLE_take data hd (Nat.not_lt.1 h1), List.append_assoc, ← List.drop_drop, List.take_append_drop,
        List.take_append_drop]
  · split at h
    · cases h
    · split at h <;> cases h
      next h1 _ h2 =>
      have hn : rs.length = fromLE (data.take hd) := by rw [((fixedRows ts _).of_ok h2).2.1, valRows_length]
      rw [hn, toLE_fromLE_take data hd (Nat.not_lt.1 h1), List.append_assoc, ← (fixedRows ts _).sound h2 ⟨hn, hc⟩,
        List.take_append_drop]
  · split at h <;> cases h
    next h2 => rw [decRowsAll_sound ts (hgr ts rfl) data.length data rs b (Nat.le_refl _) h2 hc, List.append_nil]
  · split at h
    · cases h
    · next hdv r1 h1 =>
      obtain ⟨ep', pr', dt', dv', ic, oc, hv⟩ : ∃ ep pr dt dv ic oc : Nat,
          hdv = [.num ep, .num pr, .num dt, .num dv, .num ic, .num oc] :=
        ⟨_, _, _, _, _, _, ((fixedRec sdHdr).of_ok h1).2.1⟩
      subst hv
      simp only [natOf_num] at h
      split at h <;> cases h
      next _ cl h2 =>
      have hcl := ((fixedRows [.uint 2] _).of_ok h2).2.1
      have hlen : cl.length = ic + oc := by rw [hcl, valRows_length]
      rw [List.take_append_drop, hcl, u16s_valRows, ← hcl] at hc
      rw [List.length_take, List.length_drop, List.length_map, hlen, Nat.min_eq_left (by omega),
        Nat.add_sub_cancel_left] at ha
      rw [(fixedRec sdHdr).sound h1 ha, (fixedRows _ _).sound h2 ⟨hlen, hc⟩, List.append_assoc]

end Zboss.Wire
