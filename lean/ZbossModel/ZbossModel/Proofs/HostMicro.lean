import ZbossModel.Proofs.HostPrim
/-! One task micro-step (`runReq 1`) of the request machine, spelled out once: which of twelve moves it is, the state
    that results, and whether the task goes on afterwards (`runReq_step`, `runReq_micro`); `runReq` is that step
    repeated (`runReq_succ`).  Everything that has to be shown for every task step is shown by cases on `Micro`. -/
namespace Zboss.Host

def waitPhase : Lock → Phase
  | .B => .waitB | .M => .waitM | .T => .waitT

theorem waitPhase_inj {l l' : Lock} (h : waitPhase l = waitPhase l') : l = l' := by
  cases l <;> cases l' <;> first | rfl | cases h

def afterLock : Lock → Phase
  | .B => .waitM | _ => .sendfrag

/-- does the task go on after its first micro-step (`true`) or does it block / end (`false`)? -/
def continues (st : St) (i : Nat) : Bool :=
  match getReq st i with
  | none => false
  | some r =>
    match r.phase with
    | .done => false
    | .waitAck => false
    | .waitB => if r.blocking then (acquire st .B i).2 else true
    | .waitM => (acquire st .M i).2
    | .sendfrag => st.isOpen
    | .waitT => (acquire st .T i).2 && !(acquire st .T i).1.transport
    | .acked => true
    | .waitRsp => false

/-- the moves of the task of request `i` (whose record is `r`): the resulting state, and whether the task goes on -/
inductive Micro (st : St) (i : Nat) (r : Req) : St → Bool → Prop
  | idle (h : r.phase = .done ∨ r.phase = .waitAck ∨ (r.phase = .waitRsp ∧ r.got = .nothing)) : Micro st i r st false
  | skipB (hp : r.phase = .waitB) (hb : r.blocking = false) :
      Micro st i r (updReq st i fun r => { r with phase := .waitM }) true
  | blocked (l : Lock) (hp : r.phase = waitPhase l) (hb : l = .B → r.blocking = true) (hf : (acquire st l i).2 = false) :
      Micro st i r (acquire st l i).1 false
  | locked (l : Lock) (hl : l ≠ .T) (hp : r.phase = waitPhase l) (hb : l = .B → r.blocking = true)
      (hok : (acquire st l i).2 = true) :
      Micro st i r (updReq (acquire st l i).1 i fun r => { r with phase := afterLock l }) true
  | write (hp : r.phase = .waitT) (hok : (acquire st .T i).2 = true) (ht : (acquire st .T i).1.transport = true) :
      Micro st i r
        (updReq (emit (acquire st .T i).1 (.write i r.frag (acquire st .T i).1.pack r.nfrags)) i fun r =>
          { r with phase := .waitAck, deadline := (acquire st .T i).1.now + Gen.ackTimeoutMs, gen := (acquire st .T i).1.gen })
        false
  | skipWrite (hp : r.phase = .waitT) (hok : (acquire st .T i).2 = true) (ht : (acquire st .T i).1.transport = false) :
      Micro st i r (updReq (acquire st .T i).1 i fun r => { r with phase := .acked }) true
  | toWaitT (hp : r.phase = .sendfrag) (ho : st.isOpen = true) :
      Micro st i r (updReq st i fun r => { r with phase := .waitT }) true
  | refused (hp : r.phase = .sendfrag) (ho : st.isOpen = false) : Micro st i r (unwind st i .runtimeError) false
  | nextFrag (hp : r.phase = .acked) (h : r.frag + 1 < r.nfrags) :
      Micro st i r (updReq (release st .T i) i fun x => { x with frag := r.frag + 1, phase := .sendfrag }) true
  | lastFrag (hp : r.phase = .acked) (h : ¬ r.frag + 1 < r.nfrags) :
      Micro st i r
        (updReq (release (release st .T i) .M i) i fun x =>
          { x with frag := r.frag + 1, phase := .waitRsp, deadline := (release (release st .T i) .M i).now + x.timeout })
        true
  | cancelled (hp : r.phase = .waitRsp) (hg : r.got = .cancelled) : Micro st i r (unwind st i .cancelled) false
  | answered (hp : r.phase = .waitRsp) (hg : r.got = .rsp) :
      Micro st i r (finish (if r.blocking then release st .B i else st) i .ret) false

theorem runReq_none {fuel : Nat} (st : St) (i : Nat) (hg : getReq st i = none) : runReq fuel st i = st := by
  cases fuel with
  | zero => rfl
  | succ fuel => rw [runReq]; simp only [hg]

theorem runReq_step (st : St) (i : Nat) (r : Req) (hg : getReq st i = some r) :
    ∃ st', Micro st i r st' (continues st i) ∧
      ∀ fuel, runReq (fuel + 1) st i = if continues st i = true then runReq fuel st' i else st' := by
  unfold continues
  simp only [hg, runReq]
  -- the state is left to unification with the move; `by rfl` then compares the two large states once
  cases hp : r.phase with
  | done => exact ⟨_, .idle (.inl hp), fun _ => by rfl⟩
  | waitAck => exact ⟨_, .idle (.inr (.inl hp)), fun _ => by rfl⟩
  | waitB =>
    simp only []
    cases hb : r.blocking with
    | false => exact ⟨_, .skipB hp hb, fun _ => by rfl⟩
    | true =>
      rw [acquire_eta st .B i]
      cases hok : (acquire st .B i).2 with
      | false => exact ⟨_, .blocked .B hp (fun _ => hb) hok, fun _ => by rfl⟩
      | true => exact ⟨_, .locked .B (by decide) hp (fun _ => hb) hok, fun _ => by rfl⟩
  | waitM =>
    rw [acquire_eta st .M i]
    cases hok : (acquire st .M i).2 with
    | false => exact ⟨_, .blocked .M hp nofun hok, fun _ => by rfl⟩
    | true => exact ⟨_, .locked .M (by decide) hp nofun hok, fun _ => by rfl⟩
  | sendfrag =>
    cases ho : st.isOpen with
    | false => exact ⟨_, .refused hp ho, fun _ => by rfl⟩
    | true => exact ⟨_, .toWaitT hp ho, fun _ => by rfl⟩
  | waitT =>
    rw [acquire_eta st .T i]
    cases hok : (acquire st .T i).2 with
    | false => exact ⟨_, .blocked .T hp nofun hok, fun _ => by rfl⟩
    | true =>
      cases ht : (acquire st .T i).1.transport with
      | false => exact ⟨_, .skipWrite hp hok ht, fun _ => by rfl⟩
      | true => exact ⟨_, .write hp hok ht, fun _ => by rfl⟩
  | acked =>
    simp only []
    by_cases h : r.frag + 1 < r.nfrags
    · exact ⟨_, .nextFrag hp h, fun _ => by rw [if_pos h]; rfl⟩
    · exact ⟨_, .lastFrag hp h, fun _ => by rw [if_neg h]; rfl⟩
  | waitRsp =>
    simp only []
    cases hgot : r.got with
    | nothing => exact ⟨_, .idle (.inr (.inr ⟨hp, hgot⟩)), fun _ => by rfl⟩
    | cancelled => exact ⟨_, .cancelled hp hgot, fun _ => by rfl⟩
    | rsp => exact ⟨_, .answered hp hgot, fun _ => by rfl⟩

theorem runReq_micro (st : St) (i : Nat) (r : Req) (hg : getReq st i = some r) :
    Micro st i r (runReq 1 st i) (continues st i) := by
  obtain ⟨st', hm, he⟩ := runReq_step st i r hg
  exact ((he 0).trans (ite_self _)) ▸ hm

/-- To show something of the state after one micro-step - and of whether the task goes on -, show it of every move. -/
@[elab_as_elim]
theorem runReq1_elim_flag {P : St → Bool → Prop} (st : St) (i : Nat) (h0 : getReq st i = none → P st false)
    (h : ∀ {st' c} r, getReq st i = some r → Micro st i r st' c → P st' c) : P (runReq 1 st i) (continues st i) := by
  cases hg : getReq st i with
  | none =>
    have : continues st i = false := by unfold continues; rw [hg]
    rw [runReq_none st i hg, this]; exact h0 hg
  | some r => exact h r hg (runReq_micro st i r hg)

@[elab_as_elim]
theorem runReq1_elim {P : St → Prop} (st : St) (i : Nat) (h0 : getReq st i = none → P st)
    (h : ∀ {st' c} r, getReq st i = some r → Micro st i r st' c → P st') : P (runReq 1 st i) :=
  runReq1_elim_flag (P := fun s _ => P s) st i h0 h

theorem runReq_sendfrag (st : St) (i : Nat) (r : Req) (hg : getReq st i = some r) (hp : r.phase = .sendfrag) :
    runReq 1 st i =
      if st.isOpen then updReq st i fun r => { r with phase := .waitT } else unwind st i .runtimeError := by
  rw [runReq]; simp only [hg, hp, runReq]
  cases st.isOpen <;> rfl

theorem runReq_succ (fuel : Nat) (st : St) (i : Nat) :
    runReq (fuel + 1) st i = if continues st i = true then runReq fuel (runReq 1 st i) i else runReq 1 st i := by
  cases hg : getReq st i with
  | none => simp only [runReq_none st i hg, ite_self]
  | some r =>
    obtain ⟨st', -, he⟩ := runReq_step st i r hg
    rw [show runReq 1 st i = st' from (he 0).trans (ite_self _), he fuel]

theorem runReq_cases (fuel : Nat) (st : St) (i : Nat) :
    runReq (fuel + 1) st i = runReq 1 st i ∨ runReq (fuel + 1) st i = runReq fuel (runReq 1 st i) i := by
  rw [runReq_succ]
  split
  · exact .inr rfl
  · exact .inl rfl

theorem runReq_ind (P : St → Prop) (i : Nat) (h1 : ∀ st, P st → P (runReq 1 st i)) (fuel : Nat) (st : St) (h : P st) :
    P (runReq fuel st i) := by
  induction fuel generalizing st with
  | zero => exact h
  | succ fuel ih =>
    rcases runReq_cases fuel st i with hc | hc
    · rw [hc]; exact h1 st h
    · rw [hc]; exact ih _ (h1 st h)

theorem settle_ind (P : St → Prop) (hready : ∀ st rd, P st → P { st with ready := rd })
    (h1 : ∀ st i, P st → P (runReq 1 st i)) (fuel : Nat) (st : St) (h : P st) : P (settle fuel st) := by
  induction fuel generalizing st with
  | zero => exact h
  | succ fuel ih =>
    unfold settle
    cases hr : st.ready with
    | nil => exact h
    | cons i rest => exact ih _ (runReq_ind P i (fun s hs => h1 s i hs) 64 _ (hready st rest h))

end Zboss.Host
