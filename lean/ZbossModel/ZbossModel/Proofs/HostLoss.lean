import ZbossModel.Proofs.HostLive
/-! After the link is gone (`connection_lost`, or `close()`): every timer that fires brings the set of running requests
    strictly closer to empty.  A potential - 2 for a request that may still write a frame or waits for an
    acknowledgement, 1 for any other running request - never grows under task steps once the API has no uart, and drops
    with every timer expiry as long as a request is running.  Hence after at most `2 * (number of requests)` timer
    expiries nothing is running: no request outlives its own timers. -/
namespace Zboss.Host

theorem sum_map_mono {α : Type} (l : List α) (f g : α → Nat) (h : ∀ x ∈ l, f x ≤ g x) :
    (l.map f).sum ≤ (l.map g).sum ∧ ∀ a ∈ l, f a < g a → (l.map f).sum < (l.map g).sum := by
  induction l with
  | nil => exact ⟨Nat.le_refl _, fun _ ha => nomatch ha⟩
  | cons b t ih =>
    obtain ⟨hle, hlt⟩ := ih fun x hx => h x (List.mem_cons_of_mem _ hx)
    have hb := h b (List.mem_cons_self ..)
    simp only [List.map_cons, List.sum_cons]
    refine ⟨Nat.add_le_add hb hle, fun a ha hab => ?_⟩
    rcases List.mem_cons.mp ha with rfl | hat
    · exact Nat.add_lt_add_of_lt_of_le hab hle
    · exact Nat.add_lt_add_of_le_of_lt hb (hlt a hat hab)

/-- a weight on the phases, summed over the requests (`pot` below, `Mv` in `Proofs/HostRest.lean`) -/
def wsum (f : Phase → Nat) (v : View) : Nat := (v.cores.map fun c => f c.phase).sum

theorem wsum_upd (f : Phase → Nat) (v : View) (i : Nat) (g : Core → Core)
    (h : ∀ c ∈ v.cores, c.id = i → f (g c).phase ≤ f c.phase) :
    wsum f (v.upd i g) ≤ wsum f v ∧
    ∀ a ∈ v.cores, a.id = i → f (g a).phase < f a.phase → wsum f (v.upd i g) < wsum f v := by
  have hpt : ∀ c ∈ v.cores, f (if (c.id == i) = true then g c else c).phase ≤ f c.phase := by
    intro c hc
    split
    · next hi => exact h c hc (beq_iff_eq.mp hi)
    · exact Nat.le_refl _
  simp only [wsum, View.upd, List.map_map]
  refine ⟨(sum_map_mono _ _ _ hpt).1, fun a ha hai hlt => (sum_map_mono _ _ _ hpt).2 a ha ?_⟩
  show f (if (a.id == i) = true then g a else a).phase < _
  rw [if_pos (beq_iff_eq.mpr hai)]; exact hlt

theorem wsum_move (f : Phase → Nat) {v : View} {i : Nat} {c0 : Core} (hu : Uniq v.cores) (h0 : c0 ∈ v.cores)
    (hi : c0.id = i) (g : Core → Core) :
    (f (g c0).phase ≤ f c0.phase → wsum f (v.upd i g) ≤ wsum f v) ∧
    (f (g c0).phase < f c0.phase → wsum f (v.upd i g) < wsum f v) := by
  have hall : ∀ c ∈ v.cores, c.id = i → c = c0 := fun c hc hci => hu.id c hc c0 h0 (hci.trans hi.symm)
  exact ⟨fun hle => (wsum_upd f v i g fun c hc hci => by rw [hall c hc hci]; exact hle).1,
    fun hlt => (wsum_upd f v i g fun c hc hci => by rw [hall c hc hci]; exact Nat.le_of_lt hlt).2 c0 h0 hi hlt⟩

theorem wsum_done (f : Phase → Nat) (hf : f .done = 0) (v : View) (i : Nat) (o : Outcome) :
    wsum f (((v.upd i toDone).dropL i).emit (.done i o)) ≤ wsum f v ∧
    ∀ a ∈ v.cores, a.id = i → 0 < f a.phase → wsum f (((v.upd i toDone).dropL i).emit (.done i o)) < wsum f v := by
  have h := wsum_upd f v i toDone fun c _ _ => by show f .done ≤ _; rw [hf]; exact Nat.zero_le _
  exact ⟨h.1, fun a ha hai hp => h.2 a ha hai (by show f .done < _; rw [hf]; exact hp)⟩

/-- One task micro-step does not raise a weight that is 0 on `done` and goes down along the edges of the phase graph.
    Two edges are conditional: from `sendfrag` to `waitT` only while the API is open (without a uart `_send_to_uart`
    raises and the request ends); from `waitT` to `acked` - the write skipped - only without a transport. -/
theorem wsum_micro (f : Phase → Nat) (st : St) (i : Nat) (hinv : Inv2 st) (hdone : f .done = 0)
    (hdown : f .waitM ≤ f .waitB ∧ f .sendfrag ≤ f .waitM ∧ f .waitAck ≤ f .waitT ∧ f .sendfrag ≤ f .acked ∧
      f .waitRsp ≤ f .acked)
    (hS : st.isOpen = true → f .waitT ≤ f .sendfrag) (hT : st.transport = false → f .acked ≤ f .waitT) :
    wsum f (view (runReq 1 st i)) ≤ wsum f (view st) := by
  cases hg : getReq st i with
  | none => rw [runReq_none st i hg]; exact Nat.le_refl _
  | some r =>
    obtain ⟨hrm, hrid⟩ := getReq_mem st i r hg
    by_cases hsf : r.phase = .sendfrag ∧ st.isOpen = false
    · rw [runReq_sendfrag st i r hg hsf.1, hsf.2, if_neg Bool.false_ne_true, view_unwind]
      exact (wsum_done f hdone _ i _).1
    · have move := fun g => (wsum_move f (uniq_of_inv2 st hinv) (List.mem_map_of_mem hrm) hrid g).1
      have hm := micro_view st i r hg
      generalize view (runReq 1 st i) = v' at hm ⊢
      obtain ⟨hB, hM, hW, hA, hA'⟩ := hdown
      cases hm with
      | stay => exact Nat.le_refl _
      | write s hp ht => refine move _ ?_; rw [hp]; exact hW
      | fin o _ => exact (wsum_done f hdone _ i o).1
      | move g ha =>
        refine move g ?_
        rcases ha with ⟨hp, rfl⟩ | ⟨hp, rfl⟩ | ⟨hp, rfl⟩ | ⟨hp, ht, rfl⟩ | ⟨hp, _, rfl⟩ | ⟨hp, _, rfl⟩ <;> rw [hp]
        · exact hB
        · exact hM
        · exact hS (Bool.of_not_eq_false fun ho => hsf ⟨hp, ho⟩)
        · exact hT ht
        · exact hA
        · exact hA'

theorem wsum_le (f : Phase → Nat) (k : Nat) (hf : ∀ p, f p ≤ k) (v : View) : wsum f v ≤ k * v.cores.length := by
  have := (sum_map_mono v.cores (fun c => f c.phase) (fun _ => k) fun c _ => hf c.phase).1
  rwa [List.map_const', List.sum_replicate_nat, Nat.mul_comm] at this

def prank : Phase → Nat
  | .done => 0
  | .waitAck => 2
  | .waitT => 2
  | _ => 1

def pot (v : View) : Nat := (v.cores.map fun c => prank c.phase).sum

theorem pot_eq_wsum : pot = wsum prank := rfl

theorem prank_eq_zero {p : Phase} : prank p = 0 ↔ p = .done := by cases p <;> simp [prank]

theorem pot_unwind (st : St) (i : Nat) (o : Outcome) :
    pot (view (unwind st i o)) ≤ pot (view st) ∧
    ∀ r ∈ st.reqs, r.id = i → r.phase ≠ .done → pot (view (unwind st i o)) < pot (view st) := by
  rw [view_unwind, pot_eq_wsum]
  exact ⟨(wsum_done prank rfl _ i o).1, fun r hr hi hp =>
    (wsum_done prank rfl _ i o).2 (core r) (List.mem_map_of_mem hr) hi (Nat.pos_of_ne_zero (mt prank_eq_zero.mp hp))⟩

/-- with the API closed, a task micro-step never raises the potential -/
theorem pot_micro (st : St) (i : Nat) (hinv : Inv2 st) (hclosed : st.isOpen = false) :
    pot (view (runReq 1 st i)) ≤ pot (view st) :=
  -- the one edge that would raise it, from `sendfrag` to `waitT`, is not there
  pot_eq_wsum ▸ wsum_micro prank st i hinv rfl (by decide) (fun ho => by rw [hclosed] at ho; cases ho) (fun _ => by decide)

theorem pot_settle (fuel : Nat) (st : St) (hinv : Inv2 st) (hclosed : st.isOpen = false) :
    pot (view (settle fuel st)) ≤ pot (view st) :=
  (settle_ind (fun s => Inv2 s ∧ s.isOpen = false ∧ pot (view s) ≤ pot (view st))
    (fun s _ hs => ⟨hs.1.same, hs.2⟩)
    (fun s i hs => ⟨inv2_runReq1 s i hs.1, (frame_runReq 1 s i).isOpen.trans hs.2.1,
      Nat.le_trans (pot_micro s i hs.1 hs.2.1) hs.2.2⟩)
    fuel st ⟨hinv, hclosed, Nat.le_refl _⟩).2.2

theorem pot_view (st : St) : pot (view st) = (st.reqs.map fun r => prank r.phase).sum := by
  simp only [pot, view, List.map_map]; rfl

theorem pot_map (st st' : St) (g : Req → Req) (hr : st'.reqs = st.reqs.map g) (hg : ∀ r, prank (g r).phase ≤ prank r.phase) :
    pot (view st') ≤ pot (view st) ∧
    ∀ j ∈ st.reqs, prank (g j).phase < prank j.phase → pot (view st') < pot (view st) := by
  rw [pot_view, pot_view, hr, List.map_map]
  exact sum_map_mono _ _ _ fun r _ => hg r

theorem pot_ackEnd (st : St) (c : Req → Bool) (hc : ∀ r, c r = true → r.phase = .waitAck) :
    pot (view (ackEnd st c)) ≤ pot (view st) ∧ ∀ j ∈ st.reqs, c j = true → pot (view (ackEnd st c)) < pot (view st) := by
  have h := pot_map st (ackEnd st c) _ rfl fun r => by
    split
    · next hcr => simp [hc r hcr, prank]
    · exact Nat.le_refl _
  exact ⟨h.1, fun j hj hcj => h.2 j hj (by simp [hcj, hc j hcj, prank])⟩

theorem pot_tickAck (st : St) (d : Nat) :
    pot (view (tickAck st d)) ≤ pot (view st) ∧
    ∀ j ∈ st.reqs, j.phase = .waitAck → j.deadline ≤ max st.now d → pot (view (tickAck st d)) < pot (view st) := by
  obtain ⟨hle, hlt⟩ := pot_ackEnd { st with out := [], now := max st.now d }
    (fun r => r.phase == .waitAck && decide (r.deadline ≤ max st.now d))
    fun r hc => beq_iff_eq.mp (Bool.and_eq_true_iff.mp hc).1
  exact ⟨hle, fun j hj hp hd => hlt j hj (Bool.and_eq_true_iff.mpr ⟨beq_iff_eq.mpr hp, decide_eq_true hd⟩)⟩

theorem pot_foldl_unwind (ids : List Nat) (st : St) (o : Outcome) :
    pot (view (ids.foldl (fun s i => unwind s i o) st)) ≤ pot (view st) :=
  foldl_unwind_ind (P := fun s => pot (view s) ≤ pot (view st)) ids o
    (fun s i _ hs => Nat.le_trans (pot_unwind s i o).1 hs) st (Nat.le_refl _)

theorem pot_foldl_unwind_lt (l : List Req) (st : St) (o : Outcome) (hl : ∀ r ∈ l, r ∈ st.reqs ∧ r.phase ≠ .done)
    (hne : l ≠ []) : pot (view ((l.map (·.id)).foldl (fun s i => unwind s i o) st)) < pot (view st) := by
  obtain ⟨a, t, rfl⟩ := List.exists_cons_of_ne_nil hne
  obtain ⟨ham, hap⟩ := hl a (List.mem_cons_self ..)
  rw [List.map_cons, List.foldl_cons]
  exact Nat.lt_of_le_of_lt (pot_foldl_unwind _ _ o) ((pot_unwind st a.id o).2 a ham rfl hap)

/-- with the API closed no request can be added, and every other change of phase is the end of an acknowledgement
    wait or of the request -/
theorem pot_eff (a b : St) (he : Eff a b) (hc : a.isOpen = false) : b.isOpen = false ∧ pot (view b) ≤ pot (view a) := by
  cases he with
  | regs | emit | refuse => exact ⟨hc, Nat.le_refl _⟩
  | closeUart | lost => exact ⟨rfl, Nat.le_refl _⟩
  | add id key blocking nfrags timeout hfresh ho => rw [hc] at ho; cases ho
  | ackEnd c hcw => exact ⟨hc, (pot_ackEnd a c hcw).1⟩
  | answer i k key hf =>
    rw [answer_eq]
    exact ⟨hc, (pot_map a _ _ rfl fun r => by split <;> exact Nat.le_refl _).1⟩
  | unwind i o => exact ⟨(frame_unwind a i o).isOpen.trans hc, (pot_unwind a i o).1⟩
  | cancelAll => exact ⟨hc, (pot_map a _ _ rfl fun r => by split <;> exact Nat.le_refl _).1⟩

theorem closed_pre (st : St) (e : Ev) (hne : e ≠ .connect) (hclosed : st.isOpen = false) :
    (pre st e).1.isOpen = false ∧ pot (view (pre st e).1) ≤ pot (view st) :=
  (pre_effs st e hne).ind (P := fun s => s.isOpen = false ∧ pot (view s) ≤ pot (view st))
    (fun a b he h => ⟨(pot_eff a b he h.1).1, Nat.le_trans (pot_eff a b he h.1).2 h.2⟩) ⟨hclosed, Nat.le_refl _⟩

theorem pot_step_le (st : St) (e : Ev) (hinv : Inv2 st) (hc : (pre st e).1.isOpen = false) :
    pot (view (step st e)) ≤ pot (view (pre st e).1) := by
  rw [step_eq_pre]
  cases (pre st e).2
  · exact Nat.le_refl _
  · exact pot_settle _ _ (inv2_pre st e hinv) hc

theorem closed_step (st : St) (e : Ev) (hne : e ≠ .connect) (hinv : Inv2 st) (hclosed : st.isOpen = false) :
    (step st e).isOpen = false ∧ pot (view (step st e)) ≤ pot (view st) := by
  obtain ⟨hc, hle⟩ := closed_pre st e hne hclosed
  exact ⟨(frame_step st e).isOpen.trans hc, Nat.le_trans (pot_step_le st e hinv hc) hle⟩

theorem foldl_min_mem (l : List Nat) (d : Nat)
    (h : l.foldl (fun acc d => match acc with | none => some d | some a => some (min a d)) none = some d) : d ∈ l :=
  List.min?_mem ((foldl_min_eq_min? _ (fun _ => rfl) (fun _ _ => rfl) l).symm.trans h)

/-- a timer expiry makes progress: with the API closed (or the link lost), at a quiescent point with a request
    still running, the next timer expiry strictly lowers the potential -/
theorem tick_progress (st : St) (hg : Good st) (hclosed : st.isOpen = false) (hq : st.ready = [])
    (hrun : ∃ r ∈ st.reqs, r.phase ≠ .done) : pot (view (step st .tick)) < pot (view st) := by
  refine Nat.lt_of_le_of_lt (pot_step_le st .tick hg.inv (closed_pre st .tick nofun hclosed).1) ?_
  cases hnd : nextDeadline ({ st with out := [] } : St) with
  | none =>
    -- no timer is pending: nobody waits for an acknowledgement or a response, so (`drain`) nobody runs
    obtain ⟨r, hrm, hrp⟩ := hrun
    have hno := nextDeadline_none hnd
    exact absurd (drain st hg.live hq (fun x hx => (hno x hx).1) (fun x hx hp => absurd hp (hno x hx).2) r hrm) hrp
  | some d =>
    -- the timer that fires is that of a request `j`
    obtain ⟨j, hjm, hjp, rfl⟩ := nextDeadline_some hnd
    rw [pre_tick st _ hnd]
    obtain ⟨hle, hlt⟩ := pot_tickAck st j.deadline
    rcases hjp with hja | hjr
    · -- its acknowledgement wait ends
      exact Nat.lt_of_le_of_lt (pot_foldl_unwind _ _ _) (hlt j hjm hja (Nat.le_max_right ..))
    · -- its response wait was still pending (it is parked on it: `ready = []`), so the request is unwound
      have hjg := (hg.live.parked hq hjm (by rw [hjr]; decide)).got hjr
      have hj2 : j ∈ rspDue (tickAck st j.deadline) := mem_rspDue_tickAck.mpr ⟨hjm, hjr, Nat.le_max_right .., hjg⟩
      refine Nat.lt_of_lt_of_le (pot_foldl_unwind_lt _ _ _ (fun r hr => ?_) (List.ne_nil_of_mem hj2)) hle
      obtain ⟨hrm, hrp, _⟩ := mem_rspDue.mp hr
      exact ⟨hrm, by rw [hrp]; decide⟩

theorem pot_zero_iff (st : St) : pot (view st) = 0 ↔ ∀ r ∈ st.reqs, r.phase = .done := by
  rw [pot_view, List.sum_eq_zero_iff_forall_eq_nat, List.forall_mem_map]
  simp only [prank_eq_zero]

/-- `n` timer expiries in a row -/
def ticks : Nat → St → St
  | 0, st => st
  | n + 1, st => ticks n (step st .tick)

/-- The link is gone: requests end with their timers.  From any reachable state in which the API has no uart any
    more (after `connection_lost` or `close()`), as many timer expiries as the potential counts - at most two per
    request - end every request, provided each expiry is taken at a quiescent point. -/
theorem loss_drains (n : Nat) (st : St) (hg : Good st) (hclosed : st.isOpen = false)
    (hq : ∀ k, k < n → (ticks k st).ready = []) (hn : pot (view st) ≤ n) :
    ∀ r ∈ (ticks n st).reqs, r.phase = .done := by
  induction n generalizing st with
  | zero => exact (pot_zero_iff st).mp (Nat.le_zero.mp hn)
  | succ n ih =>
    obtain ⟨hc, hle⟩ := closed_step st .tick nofun hg.inv hclosed
    refine ih (step st .tick) (good_step st .tick hg) hc (fun k hk => hq (k + 1) (Nat.succ_lt_succ hk)) ?_
    -- an expiry that finds a request running lowers the potential; otherwise the potential is 0 already
    by_cases hrun : ∃ r ∈ st.reqs, r.phase ≠ .done
    · exact Nat.le_of_lt_succ (Nat.lt_of_lt_of_le (tick_progress st hg hclosed (hq 0 n.succ_pos) hrun) hn)
    · have h0 : pot (view st) = 0 := (pot_zero_iff st).mpr fun r hrm => Decidable.byContradiction fun hp => hrun ⟨r, hrm, hp⟩
      exact Nat.le_trans hle (h0 ▸ Nat.zero_le n)

theorem pot_le (st : St) : pot (view st) ≤ 2 * st.reqs.length := by
  have := wsum_le prank 2 (fun p => by cases p <;> decide) (view st)
  rwa [← pot_eq_wsum, show (view st).cores.length = st.reqs.length from List.length_map ..] at this

end Zboss.Host
