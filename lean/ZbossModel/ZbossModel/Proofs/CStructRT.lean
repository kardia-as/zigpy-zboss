import ZbossModel.CStruct
import ZbossModel.Proofs.Wire
/-! The C-struct codec (types/cstruct.py): its layout (padding aligns, the packed layout has none) and its round trip,
    aligned or packed, nested to any depth. -/
namespace Zboss.CStruct
open Wire

theorem pad_aligned (off a : Nat) (ha : 0 < a) : (off + pad off a) % a = 0 := by
  have hr : off % a < a := Nat.mod_lt _ ha
  rw [pad, Nat.add_mod, Nat.mod_mod]
  by_cases h0 : off % a = 0
  · rw [h0, Nat.sub_zero, Nat.mod_self, Nat.add_zero, Nat.zero_mod]
  · rw [Nat.mod_eq_of_lt (Nat.sub_lt ha (Nat.pos_of_ne_zero h0)), Nat.add_sub_cancel' (Nat.le_of_lt hr), Nat.mod_self]

theorem pad_one (off : Nat) : pad off 1 = 0 := by simp [pad, Nat.mod_one]

theorem alignList_pos (al : Bool) : ∀ (fs : List CTy), 0 < alignList al fs
  | [] => by simp [alignList]
  | f :: fs => by
    rw [alignList]
    exact Nat.lt_of_lt_of_le (alignList_pos al fs) (Nat.le_max_right ..)

theorem align_pos (al : Bool) (t : CTy) (h : t.WF = true) : 0 < t.align al := by
  cases t with
  | int k _ =>
    have hk : 0 < k := by simpa [CTy.WF] using h
    rw [CTy.align]
    split
    · exact hk
    · exact Nat.one_pos
  | blob _ => simp [CTy.align]
  | struct fs => rw [CTy.align]; exact alignList_pos al fs

mutual
theorem align_packed : ∀ (t : CTy), t.align false = 1
  | .int k _ => by simp [CTy.align]
  | .blob _ => by simp [CTy.align]
  | .struct fs => by simp only [CTy.align]; exact alignList_packed fs
theorem alignList_packed : ∀ (fs : List CTy), alignList false fs = 1
  | [] => by simp [alignList]
  | f :: fs => by simp only [alignList, align_packed f, alignList_packed fs]; rfl
end

theorem offsets_getD (al : Bool) (fs : List CTy) (off i : Nat) (hi : i < fs.length) :
    (offsets al fs off).getD i 0 =
      layoutEnd al (fs.take i) off + pad (layoutEnd al (fs.take i) off) ((fs.get ⟨i, hi⟩).align al) := by
  induction fs generalizing off i with
  | nil => simp at hi
  | cons f fs ih =>
    cases i with
    | zero => rfl
    | succ j => exact ih _ j (by simpa using hi)

theorem wfList_eq_all (fs : List CTy) : wfList fs = fs.all CTy.WF := by
  induction fs with
  | nil => rfl
  | cons f fs ih => rw [wfList, List.all_cons, ih]

theorem layoutEnd_packed (fs : List CTy) (off : Nat) :
    layoutEnd false fs off = off + (fs.map (CTy.size false)).sum := by
  induction fs generalizing off with
  | nil => simp [layoutEnd]
  | cons f fs ih =>
    simp only [layoutEnd, align_packed f, pad_one, ih, List.map_cons, List.sum_cons]
    omega

mutual
theorem encC_roundtrip (al : Bool) (t : CTy) (v : CVal) (b r : Bytes) (h : encC al t v = some b) :
    b.length = t.size al ∧ decC al t (b ++ r) = .ok (v, r) := by
  cases t with
  | int k sg =>
    cases v with
    | num n =>
      simp only [encC] at h
      refine ⟨by have := encS_length _ _ b h; cases sg <;> simpa [CTy.size, ST.size] using this, ?_⟩
      simp only [decC, decS_encS _ _ b r h]
    | raw x => simp [encC] at h
    | struct vs => simp [encC] at h
  | blob m =>
    cases v with
    | raw x =>
      simp only [encC] at h
      refine ⟨by simpa [CTy.size, ST.size] using encS_length _ _ b h, ?_⟩
      simp only [decC, decS_encS _ _ b r h]
    | num n => simp [encC] at h
    | struct vs => simp [encC] at h
  | struct fs =>
    cases v with
    | struct vs =>
      simp only [encC] at h
      cases hf : encFields al fs vs 0 with
      | none => simp [hf] at h
      | some fb =>
        simp only [hf, Option.some.injEq] at h
        subst h
        have hrt (r') := encFields_roundtrip al fs vs 0 fb r' hf
        have hexp : (CTy.struct fs).size al = fb.length + pad fb.length (alignList al fs) := by
          simp only [CTy.size, ← (hrt []).1, Nat.zero_add]
        refine ⟨by rw [hexp, List.length_append, List.length_replicate], ?_⟩
        have hlen : ¬ (fb ++ (List.replicate (pad fb.length (alignList al fs)) 0xFF ++ r)).length <
            fb.length + pad fb.length (alignList al fs) := by simp
        simp only [decC, hexp, List.append_assoc, hlen, if_false, (hrt _).2, Nat.zero_add, Nat.add_sub_cancel_left]
        rw [List.drop_left' List.length_replicate]
    | num n => simp [encC] at h
    | raw x => simp [encC] at h

theorem encFields_roundtrip (al : Bool) (fs : List CTy) (vs : List CVal) (off : Nat) (b r : Bytes)
    (h : encFields al fs vs off = some b) :
    off + b.length = layoutEnd al fs off ∧ decFields al fs (b ++ r) off = .ok (vs, r, off + b.length) := by
  cases fs with
  | nil =>
    cases vs with
    | nil =>
      simp only [encFields, Option.some.injEq] at h
      subst h
      simp [layoutEnd, decFields]
    | cons _ _ => simp [encFields] at h
  | cons f fs =>
    cases vs with
    | nil => simp [encFields] at h
    | cons v vs =>
      simp only [encFields] at h
      cases hc : encC al f v with
      | none => simp [hc] at h
      | some fb =>
        simp only [hc] at h
        cases hr : encFields al fs vs (off + pad off (f.align al) + fb.length) with
        | none => simp [hr] at h
        | some rest =>
          simp only [hr, Option.some.injEq] at h
          subst h
          obtain ⟨c1, c2⟩ := encC_roundtrip al f v fb (rest ++ r) hc
          obtain ⟨d1, d2⟩ := encFields_roundtrip al fs vs (off + pad off (f.align al) + fb.length) rest r hr
          refine ⟨?_, ?_⟩
          · simp only [layoutEnd, List.length_append, List.length_replicate]
            rw [← c1, ← d1]; omega
          · simp only [decFields, List.append_assoc]
            rw [List.drop_left' (by simp), c2]
            simp only []
            have hu : (fb ++ (rest ++ r)).length - (rest ++ r).length = fb.length := by simp
            rw [hu, d2]
            simp only [List.length_append, List.length_replicate]
            congr 3
            omega
end

end Zboss.CStruct
