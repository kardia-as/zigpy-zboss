import ZbossModel.Proofs.HostTrace
import ZbossModel.Proofs.HostTable
/-! The invariants of the request machine do not depend on the order in which the event loop runs the ready
    tasks: `MReach` closes the initial state under the immediate effect of any event (`pre`), under one
    micro-step of **any** request task (ready or not, in any order, any number of times) and under arbitrary
    changes of the ready queue.  The deterministic `step` (FIFO ready queue, run each task until it blocks) is
    one such schedule (`mreach_run`). -/
namespace Zboss.Host

/-- what the event loop may do between two events -/
inductive Sched : St → St → Prop
  | task (st : St) (i : Nat) : Sched st (runReq 1 st i)
  | ready (st : St) (rd : List Nat) : Sched st { st with ready := rd }

/-- states reachable under every scheduling order, with the output history before the current step -/
inductive MReach : List Out → St → Prop
  | init : MReach [] {}
  | event (hist : List Out) (st : St) (e : Ev) : MReach hist st → MReach (hist ++ st.out) (pre st e).1
  | sched (hist : List Out) (st st' : St) : MReach hist st → Sched st st' → MReach hist st'

theorem mreach_table (hist : List Out) (st : St) (h : MReach hist st) : Both hist st ∧ TableV (view st) := by
  induction h with
  | init => exact ⟨both_init, rfl⟩
  | event hist st e _ ih => exact ⟨both_pre hist st e ih.1, table_pre st e ih.2⟩
  | sched hist st st' _ hs ih =>
    cases hs with
    | task i => exact ⟨both_runReq1 hist st i ih.1, view_runReq1 table_micro st i ih.1.1 ih.2⟩
    | ready rd => exact ⟨⟨ih.1.1.same, ih.1.2⟩, ih.2⟩

theorem mreach_inv (hist : List Out) (st : St) (h : MReach hist st) : Both hist st ∧ NoResidue st :=
  (mreach_table hist st h).imp_right nr_of_table

theorem mreach_step (hist : List Out) (st : St) (e : Ev) (h : MReach hist st) : MReach (hist ++ st.out) (step st e) :=
  step_ind (fun s rd hs => .sched _ s _ hs (.ready s rd)) (fun s i hs => .sched _ s _ hs (.task s i)) st e
    (.event hist st e h)

theorem mreach_run (evs : List Ev) :
    ∃ hist, (runEvents {} evs).2.flatten = hist ++ (runEvents {} evs).1.out ∧ MReach hist (runEvents {} evs).1 :=
  reachable_log_ind .init (fun _ e hist h => mreach_step hist _ e h) evs

end Zboss.Host
