import ZbossModel.Proofs.HostTrace
/-! While a request awaits an acknowledgement no data frame is written - whatever the scheduler does - and an
    event that does not end that wait leaves it waiting. -/
namespace Zboss.Host

def writes (l : List Out) : List Out := l.filter isWrite

theorem writes_append (a b : List Out) : writes (a ++ b) = writes a ++ writes b := List.filter_append ..

theorem writes_snoc (l : List Out) (o : Out) (h : isWrite o = false) : writes (l ++ [o]) = writes l := by
  rw [writes_append]; simp [writes, h]

/-- the transmit lock cannot be taken while another request holds it -/
theorem acquire_T_fails (st : St) (i : Nat) (r' r : Req) (hinv : Inv2 st) (hg : getReq st i = some r')
    (hp : r'.phase = .waitT) (hr : r ∈ st.reqs) (ha : ackPhase r.phase = true) : (acquire st .T i).2 = false := by
  refine Bool.eq_false_iff.mpr fun hok => ?_
  -- `r` holds the lock, so it is the head of the queue, before and after
  rw [acquire_ok_iff, queue_acquire_self, head_ite_append _ _ i r.id ((hinv.2 r hr).1 .T ((hinv.2 r hr).2.2.1 ha))] at hok
  -- so `r` would be request `i`, whose phase is another
  obtain ⟨hm', hid'⟩ := getReq_mem st i r' hg
  rw [unique_of_id st hinv.1 r r' hr hm' ((Option.some.inj hok).trans hid'.symm), hp] at ha; cases ha

theorem out_acquire (st : St) (l : Lock) (i : Nat) : (acquire st l i).1.out = st.out :=
  congrArg View.out (view_acquire st l i)

/-- a micro-step that writes a data frame starts in `waitT`, inside the transmission of a message; so does the
    acknowledgement wait, and only one request at a time is there (message lock) -/
theorem writes_micro {v v' : View} {i : Nat} {c0 c : Core} (hu : Uniq v.cores) (h0 : c0 ∈ v.cores)
    (hm : MicroStep v i c0 v') (hc : c ∈ v.cores) (ha : ackPhase c.phase = true) : writes v'.out = writes v.out := by
  cases hm with
  | stay => rfl
  | move g _ => rfl
  | write s hp _ =>
    rw [← hu.tx c0 h0 c hc (by rw [hp]; rfl) (inTransmit_of_ackPhase ha), hp] at ha; cases ha
  | fin o _ => exact writes_snoc _ _ rfl

theorem no_write_micro (st : St) (i : Nat) (hinv : Inv2 st) (r : Req) (hr : r ∈ st.reqs) (ha : ackPhase r.phase = true) :
    writes (runReq 1 st i).out = writes st.out :=
  runReq1_elim st i (fun _ => rfl) fun r' hg hm =>
    writes_micro (uniq_of_inv2 st hinv) (List.mem_map_of_mem (getReq_mem st i r' hg).1) hm.view (List.mem_map_of_mem hr) ha

/-- request `j` is waiting for an acknowledgement -/
abbrev AckW (j : Nat) (v : View) : Prop := InPhase .waitAck j v

/-- what the task steps keep while request `j` is waiting: silence on the wire, and the wait -/
def Quiet (j : Nat) (v : View) : Prop := writes v.out = [] ∧ AckW j v

theorem quiet_micro (j : Nat) (v v' : View) (i : Nat) (c0 : Core) (hu : Uniq v.cores) (h0 : c0 ∈ v.cores)
    (hi : c0.id = i) (hm : MicroStep v i c0 v') (h : Quiet j v) : Quiet j v' := by
  obtain ⟨c, hc, _, hp⟩ := h.2
  exact ⟨(writes_micro hu h0 hm hc (by rw [hp]; rfl)).trans h.1, inPhase_micro (.inl rfl) j v v' i c0 hu h0 hi hm h.2⟩

theorem writes_eff (a b : St) (he : Eff a b) : writes b.out = writes a.out := by
  cases he with
  | regs | add | ackEnd | cancelAll | closeUart | lost => rfl
  | emit o ho => exact writes_snoc _ o (by cases o <;> first | rfl | cases ho)
  | refuse id => exact writes_snoc _ _ rfl
  | answer i => rw [answer_eq]
  | unwind i o => show writes (view (unwind a i o)).out = _; rw [view_unwind]; exact writes_snoc _ _ rfl

/-- the event does not end the acknowledgement wait of request `j`: it is not the matching ACK, not the
    cancellation of `j`, and if it is a timer expiry then `j`'s ACK deadline is later than the expiring one -/
def KeepsWaiting (st : St) (j : Nat) (e : Ev) : Prop :=
  e ≠ .rxAck st.pack ∧ e ≠ .cancel j ∧
  (e = .tick → ∀ d, nextDeadline { st with out := [] } = some d → ∀ r ∈ st.reqs, r.id = j → max st.now d < r.deadline)

/-- the events, one by one: all but an ACK, a timer and a cancellation leave ids and phases alone; of these three the
    hypothesis leaves the cases that pass request `j` by -/
theorem ackw_pre (st : St) (e : Ev) (j : Nat) (h : AckW j (view st)) (hk : KeepsWaiting st j e) :
    AckW j (view (pre st e).1) := by
  -- the requests are left alone, or response futures are resolved or cancelled
  have got : ∀ (s : St) (c : Req → Bool) (x : Got),
      s.reqs = st.reqs.map (fun r => if c r = true then { r with got := x } else r) → AckW j (view s) :=
    fun s c x hs => inPhase_map_reqs st s _ hs (fun r _ hj hp => by split <;> exact ⟨hj, hp⟩) h
  have same : ∀ s : St, s.reqs = st.reqs → AckW j (view s) := fun s hs =>
    inPhase_map_reqs st s id (by rw [hs, List.map_id]) (fun r _ hj hp => ⟨hj, hp⟩) h
  cases e with
  | start id key blocking nfrags timeout =>
    rw [pre_start]
    refine ite_both (same _ rfl) (ite_both (same _ rfl) ?_)
    obtain ⟨c, hc, hcj⟩ := h
    exact ⟨c, by simp only [view, List.map_append, List.mem_append]; exact .inl hc, hcj⟩
  | rxAck k => rw [pre_rxAck, if_neg fun hkp => hk.1 (by rw [hkp])]; exact same _ rfl
  | rxRsp key =>
    rw [pre_rxRsp]
    cases st.listeners.find? (fun l => l.2 == key) with
    | none => exact same _ rfl
    | some l => exact got _ (·.id == l.1) .rsp (reqs_answer _ l.1)
  | tick =>
    cases hnd : nextDeadline { st with out := [] } with
    | none => rw [pre_tick_none st hnd]; exact same _ rfl
    | some d =>
      have hlate := hk.2.2 rfl d hnd
      rw [pre_tick st d hnd]
      refine foldl_unwind_ind (P := fun s => AckW j (view s)) _ _
        (fun s i hi hs => inPhase_unwind s _ (fun he => ?_) hs) _ ?_
      · obtain ⟨r, hr, rfl⟩ := List.mem_map.mp hi
        obtain ⟨hrm, _, hdue, _⟩ := mem_rspDue_tickAck.mp hr
        have := hlate r hrm he
        omega
      · refine inPhase_map_reqs st _ _ rfl (fun r hr hj hp => ?_) h
        have := hlate r hr hj
        rw [if_neg (by simp only [Bool.and_eq_true, decide_eq_true_eq, not_and]; omega)]
        exact ⟨hj, hp⟩
  | cancel id =>
    rw [pre_cancel]
    exact ite_both (same _ rfl) (inPhase_unwind _ _ (fun he => hk.2.1 (by rw [he])) (same _ rfl))
  | close =>
    rw [pre_close]
    cases st.resetting
    · exact got _ _ .cancelled rfl
    · exact same _ rfl
  | lost => rw [pre_lost]; exact same _ rfl
  | setReset b => exact same _ rfl
  | connect => rw [pre_connect]; exact ite_both (same _ rfl) (same _ rfl)

theorem no_write_while_waiting (st : St) (e : Ev) (j : Nat) (hinv : Inv2 st) (h : AckW j (view st))
    (hk : KeepsWaiting st j e) : writes (step st e).out = [] ∧ AckW j (view (step st e)) :=
  view_step (quiet_micro j) st e hinv
    ⟨pre_ind (P := fun s => writes s.out = []) (fun a b he ha => (writes_eff a b he).trans ha) (fun _ _ ha => ha) st e rfl,
      ackw_pre st e j h hk⟩

end Zboss.Host
