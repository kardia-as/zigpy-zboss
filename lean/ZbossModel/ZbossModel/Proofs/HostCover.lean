import ZbossModel.Proofs.HostSched
/-! The converse of "no residue": a running request that has neither been answered nor cancelled still has its
    response listener registered.  Hence once `close()` has emptied the listener table, every running request
    carries a cancelled (or resolved) response future: none of them can sit out its response timeout.  The invariant is
    one half of the equation for the listener table and, like it, a relation between the table and the pending futures
    that survives their common changes (`Lockstep`, `Proofs/HostTable.lean`).  `Shut` - the API closed, the listener
    table empty - is what `close()` leaves; every event but `connect()` and every task step keep it. -/
namespace Zboss.Host

def CoveredV (v : View) : Prop :=
  ∀ c ∈ v.cores, c.phase ≠ .done → c.got = .nothing → (c.id, c.key) ∈ v.listeners

theorem CoveredV.listener {st : St} (h : CoveredV (view st)) {r : Req} (hr : r ∈ st.reqs) (hp : r.phase ≠ .done)
    (hg : r.got = .nothing) : (r.id, r.key) ∈ st.listeners :=
  h (core r) (List.mem_map_of_mem hr) hp hg

theorem covered_iff {v : View} : CoveredV v ↔ Synced (fun L P => P ⊆ L) v := by
  constructor
  · intro h l hl
    obtain ⟨c, hc, hp, rfl⟩ := mem_waiters.mp hl
    exact h c hc (pendingC_iff.mp hp).1 (pendingC_iff.mp hp).2
  · intro h c hc hp hg
    exact h (mem_waiters.mpr ⟨c, hc, pendingC_iff.mpr ⟨hp, hg⟩, rfl⟩)

theorem lockstep_subset : Lockstep fun L P => P ⊆ L :=
  ⟨fun q _ _ h => List.filter_subset q h, fun _ _ _ h =>
    List.append_subset.mpr ⟨List.subset_append_of_subset_left _ h, List.subset_append_right _ _⟩⟩

/-- the invariant is kept on its own, whatever else is in the table -/
theorem cov_micro (v v' : View) (i : Nat) (c0 : Core) (hu : Uniq v.cores) (h0 : c0 ∈ v.cores) (hi : c0.id = i)
    (hs : MicroStep v i c0 v') (h : CoveredV v) : CoveredV v' :=
  covered_iff.mpr (synced_micro lockstep_subset v v' i c0 hu h0 hi hs (covered_iff.mp h))

theorem cov_pre (st : St) (e : Ev) (h : CoveredV (view st)) : CoveredV (view (pre st e).1) :=
  covered_iff.mpr (synced_pre lockstep_subset st e (covered_iff.mp h))

theorem cov_of_table {v : View} (h : TableV v) : CoveredV v := fun c hc hp hg =>
  h.mem_iff.mpr ⟨c, hc, pendingC_iff.mpr ⟨hp, hg⟩, rfl⟩

theorem no_listener_no_wait {st : St} (h : CoveredV (view st)) (hl : st.listeners = []) {r : Req} (hr : r ∈ st.reqs)
    (hp : r.phase ≠ .done) : r.got ≠ .nothing :=
  fun hg => List.not_mem_nil (hl ▸ h.listener hr hp hg)

/-- the API is closed and its listener table empty -/
def Shut (st : St) : Prop := st.isOpen = false ∧ st.listeners = []

theorem shut_of_frame {st st' : St} (hf : Frame st st') (h : Shut st) : Shut st' :=
  ⟨hf.isOpen.trans h.1, List.eq_nil_of_subset_nil fun l hl => h.2 ▸ hf.listeners l hl⟩

theorem shut_eff (a b : St) (he : Eff a b) (h : Shut a) : Shut b := by
  obtain ⟨ho, hl⟩ := h
  cases he with
  | regs | emit | refuse | ackEnd => exact ⟨ho, hl⟩
  | closeUart | lost => exact ⟨rfl, hl⟩
  | add _ _ _ _ _ _ hopen => rw [ho] at hopen; cases hopen
  | answer i k key hf => rw [hl] at hf; cases hf
  | unwind i o => exact shut_of_frame (frame_unwind _ _ _) ⟨ho, hl⟩
  | cancelAll => exact ⟨ho, rfl⟩

theorem shut_pre (st : St) (e : Ev) (hne : e ≠ .connect) (h : Shut st) : Shut (pre st e).1 :=
  (pre_effs st e hne).ind shut_eff h

theorem shut_sched (st st' : St) (h : Shut st) (hs : Sched st st') : Shut st' := by
  cases hs with
  | task i => exact shut_of_frame (frame_runReq 1 st i) h
  | ready rd => exact h

theorem shut_step (st : St) (e : Ev) (hne : e ≠ .connect) (h : Shut st) : Shut (step st e) :=
  shut_of_frame (frame_step st e) (shut_pre st e hne h)

end Zboss.Host
