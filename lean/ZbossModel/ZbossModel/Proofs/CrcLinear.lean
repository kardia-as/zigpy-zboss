import ZbossModel.Proofs.Crc
/-! Linearity of the byte-wise CRC fold; the bit-serial view (`specStep_eq_feedBits`), in which a burst of at most `w` bits
    leaves a non-zero register. -/
namespace Zboss.Crc

variable {w : Nat}

/-- the error pattern `e` applied to the data `a` -/
def xorL (a e : List W8) : List W8 := List.zipWith (· ^^^ ·) a e

theorem specStep_xor (P s s' : BitVec w) (b b' : W8) :
    specStep P (s ^^^ s') (b ^^^ b') = specStep P s b ^^^ specStep P s' b' := by
  rw [specStep, specStep, specStep, ← iter_xor,
    show (b ^^^ b').zeroExtend w = b.zeroExtend w ^^^ b'.zeroExtend w from BitVec.setWidth_xor]
  congr 1
  ac_rfl

theorem fold_xor (P : BitVec w) (d e : List W8) (h : e.length = d.length) (s s' : BitVec w) :
    (xorL d e).foldl (specStep P) (s ^^^ s') = d.foldl (specStep P) s ^^^ e.foldl (specStep P) s' := by
  induction d generalizing e s s' with
  | nil => cases e with
    | nil => rfl
    | cons _ _ => simp at h
  | cons x d ih => cases e with
    | nil => simp at h
    | cons y e =>
      simp only [xorL, List.zipWith_cons_cons, List.foldl_cons]
      rw [specStep_xor]
      exact ih e (by simpa using h) _ _

def lin (P : BitVec w) (e : List W8) : BitVec w := e.foldl (specStep P) 0#w

theorem lin_xorL (P : BitVec w) (a b : List W8) (h : b.length = a.length) :
    lin P (xorL a b) = lin P a ^^^ lin P b := by
  have := fold_xor P a b h 0#w 0#w
  rwa [BitVec.xor_zero] at this

theorem foldl_conj_xor (P c : BitVec w) (step : BitVec w → W8 → BitVec w)
    (hstep : ∀ s b, step s b = specStep P (s ^^^ c) b ^^^ c) (d e : List W8) (h : e.length = d.length)
    (s : BitVec w) : (xorL d e).foldl step s = d.foldl step s ^^^ lin P e := by
  have := fold_xor P d e h (s ^^^ c) 0#w
  rw [BitVec.xor_zero] at this
  rw [foldl_conj P c step hstep, foldl_conj P c step hstep, this, lin]
  ac_rfl

theorem crc16_xor (d e : List W8) (h : e.length = d.length) :
    crc16 (xorL d e) = crc16 d ^^^ lin P16 e := foldl_conj_xor P16 0#16 step16 step16_conj d e h 0

theorem crc8_xor (d e : List W8) (h : e.length = d.length) :
    crc8 (xorL d e) = crc8 d ^^^ lin P8 e := foldl_conj_xor P8 0xFF#8 step8 step8_eq_spec d e h 0

def ofBit (b : Bool) : BitVec w := bif b then 1#w else 0#w

def feedBit (P s : BitVec w) (b : Bool) : BitVec w := bitStep P (s ^^^ ofBit b)
def feedBits (P s : BitVec w) (u : List Bool) : BitVec w := u.foldl (feedBit P) s

def pack : List Bool → BitVec w
  | [] => 0#w
  | b :: u => ofBit b ^^^ (pack u <<< 1)

theorem ofBit_getLsbD (b : Bool) (i : Nat) (hw : 0 < w) :
    (ofBit b : BitVec w).getLsbD i = (decide (i = 0) && b) := by
  cases b <;> simp [ofBit, BitVec.getLsbD_one, hw]

theorem pack_getLsbD (u : List Bool) (i : Nat) (hi : i < w) :
    (pack u : BitVec w).getLsbD i = u.getD i false := by
  induction u generalizing i with
  | nil => exact BitVec.getLsbD_zero
  | cons b u ih =>
    rw [pack, BitVec.getLsbD_xor, ofBit_getLsbD _ _ (Nat.zero_lt_of_lt hi), BitVec.getLsbD_shiftLeft, decide_eq_true hi]
    cases i with
    | zero => simp
    | succ j =>
      rw [decide_eq_false (Nat.succ_ne_zero j), decide_eq_false (Nat.not_lt.2 (Nat.succ_pos j)), Nat.add_sub_cancel,
        List.getD_cons_succ, Bool.false_and, Bool.false_xor]
      exact ih j (Nat.lt_of_succ_lt hi)

theorem bitStep_shl (P x : BitVec w) (hx : x.getLsbD (w - 1) = false) : bitStep P (x <<< 1) = x := by
  have h0 : (x <<< 1).getLsbD 0 = false := by simp [BitVec.getLsbD_shiftLeft]
  rw [bitStep, h0, cond_false, BitVec.xor_zero]
  apply BitVec.eq_of_getLsbD_eq
  intro i hi
  rw [BitVec.getLsbD_ushiftRight, BitVec.getLsbD_shiftLeft, Nat.add_sub_cancel_left,
    decide_eq_false (Nat.not_lt.2 (Nat.le_add_right 1 i)), Bool.not_false, Bool.and_true]
  by_cases h : 1 + i < w
  · rw [decide_eq_true h, Bool.true_and]
  · rw [decide_eq_false h, Bool.false_and, show i = w - 1 by omega, hx]

theorem feedBits_eq_iter (P : BitVec w) (u : List Bool) (hu : u.length ≤ w) (s : BitVec w) :
    feedBits P s u = iter P u.length (s ^^^ pack u) := by
  induction u generalizing s with
  | nil => simp [feedBits, pack, iter]
  | cons b u ih =>
    have hu' : u.length + 1 ≤ w := hu
    -- `pack u` has its top bit clear, so clocking undoes the shift in `pack (b :: u)`
    have hmsb : (pack u : BitVec w).getLsbD (w - 1) = false := by
      rw [pack_getLsbD _ _ (by omega), List.getD_eq_getElem?_getD, List.getElem?_eq_none (by omega)]; rfl
    rw [feedBits, List.foldl_cons, ← feedBits, ih (by omega), List.length_cons, iter, pack, feedBit,
      ← BitVec.xor_assoc, bitStep_xor P _ (pack u <<< 1), bitStep_shl P _ hmsb]

/-- least significant first: the order a reflected CRC consumes them -/
def bitsOfByte (b : W8) : List Bool := (List.range 8).map b.getLsbD
def bitsOf (bs : List W8) : List Bool := bs.flatMap bitsOfByte

theorem pack_bitsOfByte (b : W8) : (pack (bitsOfByte b) : BitVec w) = b.zeroExtend w := by
  apply BitVec.eq_of_getLsbD_eq
  intro i hi
  rw [pack_getLsbD _ _ hi, bitsOfByte, BitVec.zeroExtend, BitVec.getLsbD_setWidth, List.getD_eq_getElem?_getD]
  by_cases h8 : i < 8
  · simp [List.getElem?_range h8, hi]
  · simp [Nat.le_of_not_lt h8]

/-- Lemma E: a byte step is eight single-bit steps, LSB first -/
theorem specStep_eq_feedBits (P s : BitVec w) (b : W8) (hw : 8 ≤ w) :
    specStep P s b = feedBits P s (bitsOfByte b) := by
  rw [feedBits_eq_iter P _ (by simp [bitsOfByte]; omega), pack_bitsOfByte b]
  simp [specStep, bitsOfByte]

theorem feedBits_append (P s : BitVec w) (a b : List Bool) :
    feedBits P s (a ++ b) = feedBits P (feedBits P s a) b := by simp [feedBits, List.foldl_append]

theorem fold_eq_feedBits (P : BitVec w) (hw : 8 ≤ w) (bs : List W8) (s : BitVec w) :
    bs.foldl (specStep P) s = feedBits P s (bitsOf bs) := by
  induction bs generalizing s with
  | nil => rfl
  | cons b t ih =>
    rw [List.foldl_cons, ih, specStep_eq_feedBits P s b hw]
    exact (feedBits_append P s _ _).symm

theorem feedBits_zeros (P s : BitVec w) (k : Nat) :
    feedBits P s (List.replicate k false) = iter P k s := by
  induction k generalizing s with
  | zero => rfl
  | succ k ih =>
    simp only [List.replicate_succ, feedBits, List.foldl_cons] at ih ⊢
    rw [ih]
    simp [iter, feedBit, ofBit]

theorem feedBits_burst_ne_zero (P : BitVec w) (hP : P.getLsbD (w - 1) = true)
    (m k : Nat) (δ : List Bool) (hδ : δ.length + 1 ≤ w) :
    feedBits P 0#w (List.replicate m false ++ true :: δ ++ List.replicate k false) ≠ 0#w := by
  rw [List.append_assoc, feedBits_append, feedBits_zeros, iter_zero,
      show (true :: δ ++ List.replicate k false) = (true :: δ) ++ List.replicate k false from rfl,
      feedBits_append, feedBits_zeros, feedBits_eq_iter P _ (by simpa using hδ)]
  intro h
  have hw : 0 < w := Nat.lt_of_lt_of_le (Nat.succ_pos _) hδ
  have h1 := iter_eq_zero P hw hP _ _ h
  have h2 := iter_eq_zero P hw hP _ _ h1
  have : (0#w ^^^ pack (true :: δ) : BitVec w).getLsbD 0 = true := by
    rw [BitVec.zero_xor, pack_getLsbD _ _ hw]; rfl
  rw [h2] at this
  simp at this

end Zboss.Crc
