import ZbossModel.Proofs.Host
/-! Task steps of the request machine seen through a small *view* of the state: per request its id, phase,
    fragment counter, fragment count, command and response future; the output log, the transport flag, the listener
    table and the number of connections.  Each micro-step of a task (`Micro`) is one of four kinds of view change
    (`MicroStep`); a property of the view that every kind keeps holds through task steps, events and histories
    (`view_runReq1` … `view_reachable`). -/
namespace Zboss.Host

structure Core where
  id : Nat
  phase : Phase
  frag : Nat
  nfrags : Nat
  key : Nat
  got : Got
  deriving DecidableEq, Repr

def core (r : Req) : Core := ⟨r.id, r.phase, r.frag, r.nfrags, r.key, r.got⟩

structure View where
  cores : List Core
  out : List Out
  transport : Bool
  listeners : List (Nat × Nat)
  gen : Nat                      -- connections opened so far (0: the first connection)

def view (st : St) : View := ⟨st.reqs.map core, st.out, st.transport, st.listeners, st.gen⟩

def View.upd (v : View) (i : Nat) (g : Core → Core) : View :=
  { v with cores := v.cores.map fun c => if (c.id == i) = true then g c else c }

def View.emit (v : View) (o : Out) : View := { v with out := v.out ++ [o] }

/-- the done-callback of the response future removes the request's listener -/
def View.dropL (v : View) (i : Nat) : View := { v with listeners := v.listeners.filter (·.1 != i) }

theorem view_ids (st : St) : (view st).cores.map (·.id) = st.reqs.map (·.id) := by
  simp only [view, List.map_map]; rfl

theorem mem_upd {v : View} {i : Nat} {g : Core → Core} {x : Core} (h : x ∈ (v.upd i g).cores) :
    ∃ c ∈ v.cores, x = if (c.id == i) = true then g c else c :=
  let ⟨c, hc, he⟩ := List.mem_map.mp h
  ⟨c, hc, he.symm⟩

theorem mem_upd_of {v : View} {i : Nat} {g : Core → Core} {c : Core} (h : c ∈ v.cores) :
    (if (c.id == i) = true then g c else c) ∈ (v.upd i g).cores :=
  List.mem_map_of_mem h

theorem mem_upd_other {v : View} {i : Nat} {g : Core → Core} {c : Core} (h : c ∈ v.cores) (hne : c.id ≠ i) :
    c ∈ (v.upd i g).cores := by
  have := mem_upd_of (i := i) (g := g) h
  rwa [if_neg (by simpa using hne)] at this

theorem mem_upd_self {v : View} {i : Nat} {g : Core → Core} {c : Core} (h : c ∈ v.cores) (hi : c.id = i) :
    g c ∈ (v.upd i g).cores := by
  have := mem_upd_of (i := i) (g := g) h
  rwa [if_pos (by simpa using hi)] at this

theorem forall_mem_upd {v : View} {i : Nat} {g : Core → Core} {P : Core → Prop}
    (hother : ∀ c ∈ v.cores, c.id ≠ i → P c) (hself : ∀ c ∈ v.cores, c.id = i → P (g c)) :
    ∀ x ∈ (v.upd i g).cores, P x :=
  List.forall_mem_map.mpr fun c hc => by
    split
    · next hi => exact hself c hc (by simpa using hi)
    · next hi => exact hother c hc (by simpa using hi)

theorem View.upd_eq (v : View) (i : Nat) (g : Core → Core) (h : ∀ c ∈ v.cores, c.id = i → g c = c) : v.upd i g = v := by
  have : (v.cores.map fun c => if (c.id == i) = true then g c else c) = v.cores.map id :=
    List.map_congr_left fun c hc => by
      split
      · next hi => exact h c hc (by simpa using hi)
      · rfl
  simp only [View.upd, this, List.map_id]

theorem View.upd_id (v : View) (i : Nat) : v.upd i (fun c => c) = v := v.upd_eq i _ fun _ _ _ => rfl

theorem core_setHold (r : Req) (l : Lock) (b : Bool) : core (setHold r l b) = core r := by cases l <;> rfl

theorem view_updReq (st : St) (i : Nat) (f : Req → Req) (g : Core → Core) (h : ∀ r, core (f r) = g (core r)) :
    view (updReq st i f) = (view st).upd i g := by
  simp only [view, updReq, View.upd, List.map_map]
  congr 1
  exact List.map_congr_left fun r _ => (apply_ite core _ _ _).trans (by rw [h r]; rfl)

@[simp] theorem view_emit (st : St) (o : Out) : view (emit st o) = (view st).emit o := rfl

theorem view_blind (v : View) : LockBlind fun s => view s = v :=
  ⟨fun s l q h => by cases l <;> exact h,
   fun s i l b h => by rw [view_updReq s i _ (fun c => c) (core_setHold · l b), View.upd_id]; exact h,
   fun _ _ h => h⟩

@[simp] theorem view_acquire (st : St) (l : Lock) (i : Nat) : view (acquire st l i).1 = view st :=
  blind_acquire (view_blind _) st l i rfl

@[simp] theorem view_release (st : St) (l : Lock) (i : Nat) : view (release st l i) = view st :=
  blind_release (view_blind _) st l i rfl

def toDone (c : Core) : Core := { c with phase := .done }

theorem view_finish (st : St) (i : Nat) (o : Outcome) :
    view (finish st i o) = (((view st).upd i toDone).dropL i).emit (.done i o) := by
  rw [← view_updReq st i (fun r => { r with phase := .done }) toDone fun _ => rfl]; rfl

theorem view_unwind (st : St) (i : Nat) (o : Outcome) :
    view (unwind st i o) = (((view st).upd i toDone).dropL i).emit (.done i o) := by
  rw [unwind, view_finish, blind_unwindLocks (view_blind _) st i rfl]

/-! ## one micro-step -/

/-- the legal silent moves of one request (whose core is `c0`) -/
def Allowed (transport : Bool) (c0 : Core) (g : Core → Core) : Prop :=
  (c0.phase = .waitB ∧ g = fun c => { c with phase := .waitM }) ∨
  (c0.phase = .waitM ∧ g = fun c => { c with phase := .sendfrag }) ∨
  (c0.phase = .sendfrag ∧ g = fun c => { c with phase := .waitT }) ∨
  (c0.phase = .waitT ∧ transport = false ∧ g = fun c => { c with phase := .acked }) ∨
  (c0.phase = .acked ∧ c0.frag + 1 < c0.nfrags ∧ g = fun c => { c with frag := c0.frag + 1, phase := .sendfrag }) ∨
  (c0.phase = .acked ∧ ¬ c0.frag + 1 < c0.nfrags ∧ g = fun c => { c with frag := c0.frag + 1, phase := .waitRsp })

/-- the four kinds of change one micro-step of request `i` (whose core is `c0`) makes to the view -/
inductive MicroStep (v : View) (i : Nat) (c0 : Core) : View → Prop
  | stay : MicroStep v i c0 v
  | move (g : Core → Core) (h : Allowed v.transport c0 g) : MicroStep v i c0 (v.upd i g)
  | write (s : Nat) (hp : c0.phase = .waitT) (ht : v.transport = true) :
      MicroStep v i c0 ((v.emit (.write i c0.frag s c0.nfrags)).upd i fun c => { c with phase := .waitAck })
  | fin (o : Outcome) (hp : c0.phase = .sendfrag ∨ c0.phase = .waitRsp) :
      MicroStep v i c0 (((v.upd i toDone).dropL i).emit (.done i o))

theorem MicroStep.of_updReq {st s : St} {i : Nat} {c0 : Core} {f : Req → Req} {g : Core → Core} (hs : view s = view st)
    (hf : ∀ x, core (f x) = g (core x)) (ha : Allowed st.transport c0 g) :
    MicroStep (view st) i c0 (view (updReq s i f)) := by
  rw [view_updReq _ i _ g hf, hs]; exact .move g ha

theorem Micro.view {st st' : St} {i : Nat} {r : Req} {c : Bool} (h : Micro st i r st' c) :
    MicroStep (view st) i (core r) (view st') := by
  have htr : (acquire st .T i).1.transport = st.transport := (frame_acquire st .T i).transport
  cases h with
  | idle => exact .stay
  | blocked l => rw [view_acquire]; exact .stay
  | skipB hp => exact .of_updReq rfl (fun _ => rfl) (.inl ⟨hp, rfl⟩)
  | locked l hl hp =>
    refine .of_updReq (g := fun c => { c with phase := afterLock l }) (view_acquire st l i) (fun _ => rfl) ?_
    cases l with
    | B => exact .inl ⟨hp, rfl⟩
    | M => exact .inr (.inl ⟨hp, rfl⟩)
    | T => exact absurd rfl hl
  | toWaitT hp => exact .of_updReq rfl (fun _ => rfl) (.inr (.inr (.inl ⟨hp, rfl⟩)))
  | write hp _ ht =>
    rw [view_updReq _ i _ (fun c => { c with phase := .waitAck }) (fun _ => rfl), view_emit, view_acquire]
    exact .write _ hp (htr.symm.trans ht)
  | skipWrite hp _ ht =>
    exact .of_updReq (view_acquire st .T i) (fun _ => rfl) (.inr (.inr (.inr (.inl ⟨hp, htr.symm.trans ht, rfl⟩))))
  | nextFrag hp hlt =>
    exact .of_updReq (view_release st .T i) (fun _ => rfl) (.inr (.inr (.inr (.inr (.inl ⟨hp, hlt, rfl⟩)))))
  | lastFrag hp hlt =>
    exact .of_updReq ((view_release _ .M i).trans (view_release st .T i)) (fun _ => rfl)
      (.inr (.inr (.inr (.inr (.inr ⟨hp, hlt, rfl⟩)))))
  | refused hp => rw [view_unwind]; exact .fin _ (.inl hp)
  | cancelled hp => rw [view_unwind]; exact .fin _ (.inr hp)
  | answered hp =>
    rw [view_finish]
    split
    · rw [view_release]; exact .fin _ (.inr hp)
    · exact .fin _ (.inr hp)

theorem micro_view (st : St) (i : Nat) (r : Req) (hg : getReq st i = some r) :
    MicroStep (view st) i (core r) (view (runReq 1 st i)) :=
  (runReq_micro st i r hg).view

theorem waitRsp_step_ends {st st' : St} {i : Nat} {r : Req} {c : Bool} (hm : Micro st i r st' c) (hp : r.phase = .waitRsp)
    (hgot : r.got ≠ .nothing) : ∃ o, st'.out = st.out ++ [.done i o] := by
  cases hm with
  | idle h =>
    rcases h with h | h | ⟨_, h⟩
    · rw [hp] at h; cases h
    · rw [hp] at h; cases h
    · exact absurd h hgot
  | cancelled => exact ⟨.cancelled, congrArg View.out (view_unwind st i .cancelled)⟩
  | answered =>
    refine ⟨.ret, (congrArg View.out (view_finish _ i .ret)).trans ?_⟩
    split
    · exact congrArg (· ++ _) (congrArg View.out (view_release st .B i))
    · rfl
  | skipB h | toWaitT h | refused h | nextFrag h | lastFrag h | write h | skipWrite h => rw [hp] at h; cases h
  | blocked l h | locked l _ h => rw [hp] at h; cases l <;> cases h

theorem sendfrag_step_ends (st : St) (i : Nat) (r : Req) (hg : getReq st i = some r) (hp : r.phase = .sendfrag)
    (hclosed : st.isOpen = false) : (runReq 1 st i).out = st.out ++ [.done i .runtimeError] := by
  rw [runReq_sendfrag st i r hg hp, hclosed]
  exact congrArg View.out (view_unwind st i .runtimeError)

/-- ids are unique and at most one request is inside the transmission of its message -/
structure Uniq (cs : List Core) : Prop where
  id : ∀ c ∈ cs, ∀ c' ∈ cs, c.id = c'.id → c = c'
  tx : ∀ c ∈ cs, ∀ c' ∈ cs, inTransmit c.phase = true → inTransmit c'.phase = true → c = c'

theorem uniq_of_inv2 (st : St) (h : Inv2 st) : Uniq (view st).cores where
  id := List.forall_mem_map.mpr fun r hr => List.forall_mem_map.mpr fun r' hr' he =>
    congrArg core (unique_of_id st h.1 r r' hr hr' he)
  tx := List.forall_mem_map.mpr fun r hr => List.forall_mem_map.mpr fun r' hr' t t' =>
    congrArg core (same_of_inTransmit st h r r' hr hr' t t')

theorem MicroStep.cores {v v' : View} {i : Nat} {c0 : Core} (hm : MicroStep v i c0 v') :
    v'.cores = v.cores ∨ ((c0.phase ≠ .waitAck ∧ c0.phase ≠ .done) ∧ ∃ g, v'.cores = (v.upd i g).cores) := by
  cases hm with
  | stay => exact .inl rfl
  | move g ha =>
    refine .inr ⟨?_, g, rfl⟩
    rcases ha with ⟨h, _⟩ | ⟨h, _⟩ | ⟨h, _⟩ | ⟨h, _⟩ | ⟨h, _⟩ | ⟨h, _⟩ <;> rw [h] <;> decide
  | write s hp _ => exact .inr ⟨by rw [hp]; decide, _, rfl⟩
  | fin o hp =>
    refine .inr ⟨?_, toDone, rfl⟩
    rcases hp with h | h <;> rw [h] <;> decide

/-! ## steps and histories

    What every kind of micro-step keeps of the view (`hm`; it may use what the lock discipline says about the cores, `Uniq`),
    a task step keeps, and so do the task runs of an event. -/

section
variable {P : View → Prop}
  (hm : ∀ v v' i c0, Uniq v.cores → c0 ∈ v.cores → c0.id = i → MicroStep v i c0 v' → P v → P v')
include hm

theorem view_runReq1 (st : St) (i : Nat) (hinv : Inv2 st) (h : P (view st)) : P (view (runReq 1 st i)) := by
  refine runReq1_elim st i (fun _ => h) fun r hg hmic => ?_
  obtain ⟨hrm, hrid⟩ := getReq_mem st i r hg
  exact hm _ _ i (core r) (uniq_of_inv2 st hinv) (List.mem_map_of_mem hrm) hrid hmic.view h

theorem view_settle (fuel : Nat) (st : St) (hinv : Inv2 st) (h : P (view st)) : P (view (settle fuel st)) :=
  (settle_ind (fun s => Inv2 s ∧ P (view s)) (fun _ _ hs => ⟨hs.1.same, hs.2⟩)
    (fun s i hs => ⟨inv2_runReq1 s i hs.1, view_runReq1 hm s i hs.1 hs.2⟩) fuel st ⟨hinv, h⟩).2

theorem view_step (st : St) (e : Ev) (hinv : Inv2 st) (h : P (view (pre st e).1)) : P (view (step st e)) :=
  (step_ind (P := fun s => Inv2 s ∧ P (view s)) (fun _ _ hs => ⟨hs.1.same, hs.2⟩)
    (fun s i hs => ⟨inv2_runReq1 s i hs.1, view_runReq1 hm s i hs.1 hs.2⟩) st e ⟨inv2_pre st e hinv, h⟩).2

theorem view_reachable (h0 : P (view {}))
    (hpre : ∀ evs e, P (view (runEvents {} evs).1) → P (view (pre (runEvents {} evs).1 e).1)) (evs : List Ev) :
    P (view (runEvents {} evs).1) :=
  reachable_ind (P := fun s => P (view s)) h0 (fun evs e h => view_step hm _ e (inv2_reachable evs) (hpre evs e h)) evs

end

/-! ## `InPhase` -/

/-- request `j` is in phase `p`; `AckW` (`Proofs/HostAck.lean`) abbreviates `InPhase .waitAck`, `DoneV`
    (`Proofs/HostTimers.lean`) has the body of `InPhase .done` -/
def InPhase (p : Phase) (j : Nat) (v : View) : Prop := ∃ c ∈ v.cores, c.id = j ∧ c.phase = p

theorem inPhase_upd_other {p : Phase} {j i : Nat} {v : View} (g : Core → Core) (hne : i ≠ j) (h : InPhase p j v) :
    InPhase p j (v.upd i g) :=
  let ⟨c, hc, hj, hp⟩ := h
  ⟨c, mem_upd_other hc (hj ▸ hne.symm), hj, hp⟩

/-- the acknowledgement wait and the end are the phases in which a task does nothing: a request stays in them through the
    micro-steps of every task, its own included -/
theorem inPhase_micro {p : Phase} (hp : p = .waitAck ∨ p = .done) (j : Nat) (v v' : View) (i : Nat) (c0 : Core)
    (hu : Uniq v.cores) (h0 : c0 ∈ v.cores) (hi : c0.id = i) (hm : MicroStep v i c0 v') (h : InPhase p j v) :
    InPhase p j v' := by
  unfold InPhase
  rcases hm.cores with hc | ⟨hne, g, hc⟩ <;> rw [hc]
  · exact h
  · refine inPhase_upd_other g (fun he => ?_) h
    obtain ⟨c, hc, hj, hcp⟩ := h
    rw [hu.id c0 h0 c hc (by rw [hi, hj, he]), hcp] at hne
    rcases hp with rfl | rfl
    · exact hne.1 rfl
    · exact hne.2 rfl

theorem inPhase_unwind {p : Phase} {j i : Nat} (st : St) (o : Outcome) (hne : i ≠ j) (h : InPhase p j (view st)) :
    InPhase p j (view (unwind st i o)) := by
  rw [view_unwind]; exact inPhase_upd_other toDone hne h

theorem inPhase_map_reqs {p : Phase} {j : Nat} (a b : St) (g : Req → Req) (hr : b.reqs = a.reqs.map g)
    (hg : ∀ r ∈ a.reqs, r.id = j → r.phase = p → (g r).id = j ∧ (g r).phase = p) (h : InPhase p j (view a)) :
    InPhase p j (view b) := by
  obtain ⟨c, hc, hj, hp⟩ := h
  obtain ⟨r, hrm, rfl⟩ := List.mem_map.mp hc
  refine ⟨core (g r), ?_, hg r hrm hj hp⟩
  show _ ∈ b.reqs.map core
  rw [hr]; exact List.mem_map_of_mem (List.mem_map_of_mem hrm)

end Zboss.Host
