import ZbossModel.Proofs.Codec
import ZbossModel.Proofs.WireSound
/-! Soundness of the `from_frame` loop: a command decoded in full re-encodes to exactly the bytes received, one
    decoded in part to their beginning. -/
namespace Zboss.Codec
open Wire

def GreedyPos (fs : List FView) : Prop := ∀ f ∈ fs, ∀ ts, f.wt = .greedy ts → 0 < recSize ts

theorem fieldsOk_greedyPos (fs : List FView) (h : fieldsOk fs = true) : GreedyPos fs := by
  induction fs with
  | nil => intro f hf; cases hf
  | cons f fs ih =>
    intro g hg ts hts
    rcases List.mem_cons.mp hg with rfl | hg
    · cases fs <;> simp_all [fieldsOk, greedyOk, WT.isGreedy]
    · exact ih (fieldsOk_tail f fs h) g hg ts hts

/-- an optional field is a Python parameter of its own -/
def OptOwn (fs : List FView) : Prop :=
  ∀ pre f post, fs = pre ++ f :: post → f.optional = true → ∀ g ∈ pre, g.param ≠ f.param

theorem optOwn_of (fs : List FView) (h : optParamsOwn fs = true) : OptOwn fs := by
  intro pre f post hfs hopt g hg
  have hi := List.all_eq_true.mp h pre.length (by simp [hfs])
  rw [show fs[pre.length]? = some f by simp [hfs]] at hi
  simp only [hopt, Bool.not_true, Bool.false_or, show fs.take pre.length = pre by simp [hfs], List.all_eq_true] at hi
  simpa using hi g hg

theorem Reads.sound {fs d xs d'} (h : Reads fs d xs d') (hgp : GreedyPos fs) (he : allEnc fs (xs.map some) = true) :
    d = encParams fs (xs.map some) ++ d' := by
  induction h with
  | nil => rfl
  | @cons f fs d x d' xs d'' hd _ ih =>
    simp only [allEnc, List.map_cons, List.zip_cons_cons, List.all_cons, Bool.and_eq_true] at he
    obtain ⟨b, hb⟩ := Option.isSome_iff_exists.mp he.1
    rw [decW_sound f.wt d x d' b (hgp f (by simp)) hd hb, ih (fun g hg => hgp g (by simp [hg])) he.2]
    simp only [List.map_cons, encParams, hb, Option.getD_some, List.append_assoc]

theorem Reads.take {fs d xs d'} (h : Reads fs d xs d') (j : Nat) : ∃ dj, Reads (fs.take j) d (xs.take j) dj := by
  induction h generalizing j with
  | nil d => exact ⟨d, by simpa using .nil d⟩
  | @cons f fs d x d' xs d'' hd _ ih =>
    cases j with
    | zero => exact ⟨d, .nil d⟩
    | succ j => obtain ⟨dj, hj⟩ := ih j; exact ⟨dj, .cons hd hj⟩

theorem parse_sound (v : View) (payload : Bytes) (hgp : GreedyPos v.fields) (hown : OptOwn v.fields) (a : Assign)
    (h : fromPayload v payload = .ok (.full a)) : encParams v.fields a = payload := by
  obtain ⟨mid, xs, data', rest, hfs, hr, ⟨rfl, hstop⟩ | ⟨f, r, rfl, hstop⟩⟩ := parseLoop_stops v v.fields payload
  all_goals rw [fromPayload, hstop] at h
  · rcases ite_eq h with ⟨hemp, h⟩ | ⟨-, ⟨⟩⟩
    obtain ⟨⟨⟩, hmk⟩ := finish_ok h
    rw [List.append_nil] at hfs
    rw [hfs] at hgp ⊢
    rw [hr.sound hgp (hfs ▸ mkOk_allEnc v _ hmk), List.isEmpty_iff.mp hemp, List.append_nil]
  · obtain ⟨⟨⟩, -⟩ | ⟨⟨⟩, hmk, rfl, hopt⟩ := onError_ok h
    have hlen : (xs.map some).length = mid.length := by rw [List.length_map, hr.length]
    rw [dropParam_id mid _ f.param hlen (hown mid f r hfs hopt)] at hmk ⊢
    have hall := mkOk_allEnc v _ hmk
    rw [hfs, allEnc_append _ _ _ _ hlen, Bool.and_eq_true] at hall
    rw [hfs, encParams_append _ _ _ _ hlen, encParams_nones (f :: r) _ (by simp), List.append_nil,
      hr.sound (fun g hg => hgp g (by simp [hfs, hg])) hall.1, List.append_nil]

/-- the wire fields of one Python parameter are contiguous: among the fields before any field `f`, those of
    `f`'s parameter come last -/
def contigOK (fs : List FView) : Bool :=
  (List.range fs.length).all fun i =>
    match fs[i]? with
    | some f => ((fs.take i).dropWhile (·.param != f.param)).all (·.param == f.param)
    | none => true

theorem contig_at (fs pre : List FView) (f : FView) (post : List FView) (h : contigOK fs = true) (hfs : fs = pre ++ f :: post) :
    (pre.dropWhile (·.param != f.param)).all (·.param == f.param) = true := by
  have hi := List.all_eq_true.mp h pre.length (by simp [hfs])
  simpa [show fs[pre.length]? = some f by simp [hfs], show fs.take pre.length = pre by simp [hfs]] using hi

theorem dropParam_all (pre : List FView) (acc : Assign) (p : Nat) (hl : acc.length = pre.length)
    (h : pre.all (·.param == p) = true) : dropParam pre acc p = List.replicate pre.length none := by
  induction pre generalizing acc with
  | nil => cases List.eq_nil_of_length_eq_zero hl; rfl
  | cons g pre ih =>
    obtain _ | ⟨x, acc⟩ := acc
    · cases hl
    · simp only [List.all_cons, Bool.and_eq_true, beq_iff_eq] at h
      simp only [dropParam, List.zip_cons_cons, List.map_cons, h.1, if_true, List.length_cons, List.replicate_succ]
      exact congrArg _ (ih acc (Nat.succ.inj hl) h.2)

theorem dropParam_split (pre : List FView) (acc : Assign) (p : Nat) (hl : acc.length = pre.length)
    (hc : (pre.dropWhile (·.param != p)).all (·.param == p) = true) :
    ∃ j, j ≤ pre.length ∧ dropParam pre acc p = acc.take j ++ List.replicate (pre.length - j) none := by
  induction pre generalizing acc with
  | nil => cases List.eq_nil_of_length_eq_zero hl; exact ⟨0, Nat.le_refl _, rfl⟩
  | cons g pre ih =>
    rw [List.dropWhile_cons] at hc
    by_cases hg : g.param = p
    · -- the run of `p`-fields starts here: everything from here on is dropped
      rw [if_neg (by simp [hg])] at hc
      exact ⟨0, Nat.zero_le _, dropParam_all _ _ _ hl hc⟩
    · obtain _ | ⟨x, acc⟩ := acc
      · cases hl
      · rw [if_pos (by simpa using hg)] at hc
        obtain ⟨j, hj, ih⟩ := ih acc (Nat.succ.inj hl) hc
        refine ⟨j + 1, Nat.succ_le_succ hj, ?_⟩
        rw [dropParam] at ih ⊢
        simp only [List.zip_cons_cons, List.map_cons, hg, if_false, ih, List.take_succ_cons, List.cons_append,
          List.length_cons, Nat.add_sub_add_right]

theorem allEnc_take (fs : List FView) (a : Assign) (j : Nat) (h : allEnc fs a = true) : allEnc (fs.take j) (a.take j) = true := by
  rw [allEnc, List.zip_eq_zipWith, ← List.take_zipWith, ← List.zip_eq_zipWith]
  exact List.all_eq_true.mpr fun p hp => List.all_eq_true.mp h p (List.mem_of_mem_take hp)

theorem parse_partial_sound (v : View) (payload : Bytes) (hgp : GreedyPos v.fields) (hcont : contigOK v.fields = true)
    (a : Assign) (h : fromPayload v payload = .ok (.partialCmd a)) : ∃ tail, encParams v.fields a ++ tail = payload := by
  obtain ⟨mid, xs, data', rest, hfs, hr, ⟨rfl, hstop⟩ | ⟨f, r, rfl, hstop⟩⟩ := parseLoop_stops v v.fields payload
  all_goals rw [fromPayload, hstop] at h
  · rcases ite_eq h with ⟨-, h⟩ | ⟨-, ⟨⟩⟩
    cases (finish_ok h).1
  · obtain ⟨⟨⟩, hall⟩ | ⟨⟨⟩, -⟩ := onError_ok h
    have hlen : (xs.map some).length = mid.length := by rw [List.length_map, hr.length]
    obtain ⟨j, hj, hsplit⟩ := dropParam_split mid _ f.param hlen (contig_at _ _ _ _ hcont hfs)
    obtain ⟨dj, hrj⟩ := hr.take j
    -- regroup: (take j mid ++ drop j mid ++ f :: r) against (the first j values ++ nones)
    have hlj : ((xs.map some).take j).length = (mid.take j).length := by simp [hlen]
    rw [hsplit, hfs, ← List.take_append_drop j mid, List.append_assoc, List.append_assoc] at hall ⊢
    rw [allEnc_append _ _ _ _ hlj, Bool.and_eq_true] at hall
    rw [encParams_append _ _ _ _ hlj, encParams_nones (mid.drop j ++ f :: r) _ (by simp), List.append_nil]
    rw [← List.map_take] at hall ⊢
    exact ⟨dj, (hrj.sound (fun g hg => hgp g (by simp [hfs, List.mem_of_mem_take hg])) hall.1).symm⟩

end Zboss.Codec
