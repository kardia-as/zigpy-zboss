import ZbossModel.Proofs.HostLoss
/-! The model's event loop comes to rest.  `settle` runs ready tasks with a fuel; here the fuel `step` gives it
    (`settleFuel`) is shown to be enough, for every reachable state: a measure - four times the number of steps the
    requests can still take before they block (`mrank`, at most six per request) plus the length of the ready list -
    drops with every task run.  Hence after every event of every history the ready list is empty: the hypothesis
    `ready = []` of the theorems about successive events holds in every reachable state. -/
namespace Zboss.Host

/-- steps a request in this phase can still take before it blocks or ends, plus one while it is running -/
def mrank (tr : Bool) : Phase → Nat
  | .done => 0
  | .waitB => 6
  | .waitM => 5
  | .acked => if tr then 4 else 3
  | .sendfrag => if tr then 3 else 2
  | .waitT => if tr then 2 else 4
  | .waitAck => 1
  | .waitRsp => 1

def Mv (v : View) : Nat := (v.cores.map fun c => mrank v.transport c.phase).sum

theorem Mv_view (st : St) : Mv (view st) = wsum (mrank st.transport) (view st) := rfl

theorem mrank_le (tr : Bool) (p : Phase) : mrank tr p ≤ 6 := by
  cases p <;> cases tr <;> decide

theorem mrank_pos (tr : Bool) {p : Phase} (h : p ≠ .done) : 0 < mrank tr p := by
  cases p with
  | done => exact absurd rfl h
  | _ => cases tr <;> decide

theorem Mv_finish {st s : St} {i : Nat} {r : Req} (hs : view s = view st) (hr : r ∈ st.reqs) (hi : r.id = i)
    (hp : r.phase ≠ .done) (o : Outcome) : Mv (view (finish s i o)) < Mv (view st) := by
  rw [view_finish, hs]
  exact (wsum_done (mrank st.transport) rfl _ i o).2 (core r) (List.mem_map_of_mem hr) hi (mrank_pos _ hp)

theorem Mv_micro (st : St) (i : Nat) (hinv : Inv2 st) (hf : FlagInv st) :
    Mv (view (runReq 1 st i)) ≤ Mv (view st) := by
  rw [Mv_view, Mv_view, (frame_runReq 1 st i).transport]
  cases htr : st.transport with
  | true => exact wsum_micro (mrank true) st i hinv rfl (by decide) (fun _ => by decide) fun h => by rw [htr] at h; cases h
  | false =>
    -- the edge from `sendfrag` to `waitT` (a detour over `acked`) would raise it: but then the API is closed too
    exact wsum_micro (mrank false) st i hinv rfl (by decide) (fun ho => by rw [hf htr] at ho; cases ho) fun _ => by decide

/-- one task micro-step either leaves the ready list untouched, or lowers the measure and wakes at most three tasks -/
theorem micro_measure (st : St) (i : Nat) (hinv : Inv2 st) :
    (runReq 1 st i).ready = st.ready ∨
    (Mv (view (runReq 1 st i)) + 1 ≤ Mv (view st) ∧ (runReq 1 st i).ready.length ≤ st.ready.length + 3) := by
  refine runReq1_elim st i (fun _ => .inl rfl) fun r hg hm => ?_
  obtain ⟨hrm, hrid⟩ := getReq_mem st i r hg
  have drop := fun g => (wsum_move (mrank st.transport) (uniq_of_inv2 st hinv) (List.mem_map_of_mem hrm) hrid g).2
  cases hm with
  -- as long as the request goes down its own path, or blocks, nobody is woken
  | idle | skipB | toWaitT => exact .inl rfl
  | blocked l => exact .inl (ready_acquire st l i)
  | locked l | skipWrite => exact .inl (by rw [ready_updReq, ready_acquire])
  | write => exact .inl (by rw [ready_updReq, ready_emit, ready_acquire])
  -- a lock is released or the request ends: that uses up one of its steps
  | refused hp | cancelled hp =>
    exact .inr ⟨Mv_finish (blind_unwindLocks (view_blind _) st i rfl) hrm hrid (by rw [hp]; decide) _, ready_unwind_le st i _⟩
  | nextFrag hp =>
    refine .inr ⟨?_, ?_⟩
    · rw [view_updReq _ i _ (fun c => { c with frag := r.frag + 1, phase := .sendfrag }) (fun _ => rfl), view_release]
      exact drop _ (by show mrank _ .sendfrag < mrank _ r.phase; rw [hp]; cases st.transport <;> decide)
    · have := ready_release_le st .T i
      rw [ready_updReq]; omega
  | lastFrag hp =>
    refine .inr ⟨?_, ?_⟩
    · rw [view_updReq _ i _ (fun c => { c with frag := r.frag + 1, phase := .waitRsp }) (fun _ => rfl), view_release,
        view_release]
      exact drop _ (by show mrank _ .waitRsp < mrank _ r.phase; rw [hp]; cases st.transport <;> decide)
    · have h1 := ready_release_le st .T i
      have h2 := ready_release_le (release st .T i) .M i
      rw [ready_updReq]; omega
  | answered hp =>
    have hnd : r.phase ≠ .done := by rw [hp]; decide
    rw [ready_finish]
    split
    · have := ready_release_le st .B i
      exact .inr ⟨Mv_finish (view_release st .B i) hrm hrid hnd _, by omega⟩
    · exact .inr ⟨Mv_finish rfl hrm hrid hnd _, by omega⟩

def nu (st : St) : Nat := 4 * Mv (view st) + st.ready.length

theorem nu_micro (st : St) (i : Nat) (hinv : Inv2 st) (hf : FlagInv st) : nu (runReq 1 st i) ≤ nu st := by
  unfold nu
  have hle := Mv_micro st i hinv hf
  rcases micro_measure st i hinv with h | ⟨h1, h2⟩
  · rw [h]; omega
  · omega

theorem nu_runReq (fuel : Nat) (st : St) (i : Nat) (hinv : Inv2 st) (hf : FlagInv st) : nu (runReq fuel st i) ≤ nu st :=
  (runReq_ind (fun s => Inv2 s ∧ FlagInv s ∧ nu s ≤ nu st) i
    (fun s hs => ⟨inv2_runReq1 s i hs.1, flag_runReq 1 s i hs.2.1, Nat.le_trans (nu_micro s i hs.1 hs.2.1) hs.2.2⟩)
    fuel st ⟨hinv, hf, Nat.le_refl _⟩).2.2

/-- with at least `nu st` task runs allowed, `settle` ends with an empty ready list -/
theorem settle_rest (fuel : Nat) (st : St) (hinv : Inv2 st) (hf : FlagInv st) (h : nu st ≤ fuel) :
    (settle fuel st).ready = [] := by
  induction fuel generalizing st with
  | zero => exact List.eq_nil_of_length_eq_zero (Nat.add_eq_zero_iff.mp (Nat.le_zero.mp h)).2
  | succ fuel ih =>
    unfold settle
    cases hr : st.ready with
    | nil => exact hr
    | cons i rest =>
      -- taking the task off the list pays for its run
      have hinv' : Inv2 { st with ready := rest } := hinv.same
      have hn : nu { st with ready := rest } + 1 = nu st := by unfold nu; rw [hr]; rfl
      have := nu_runReq 64 _ i hinv' hf
      exact ih _ (inv2_runReq 64 _ i hinv') (flag_runReq 64 _ i hf) (by omega)

theorem Mv_le (v : View) : Mv v ≤ 6 * v.cores.length := wsum_le (mrank v.transport) 6 (mrank_le _) v

theorem nu_le_fuel (st : St) : nu st ≤ settleFuel st := by
  unfold nu settleFuel
  have := Mv_le (view st)
  rw [show (view st).cores.length = st.reqs.length from List.length_map ..] at this
  omega

theorem pre_ready_of_false (st : St) (e : Ev) (h : (pre st e).2 = false) : (pre st e).1.ready = st.ready := by
  revert h
  cases e with
  | start id key blocking nfrags timeout => rw [pre_start]; exact ite_both (fun _ => rfl) (ite_both (fun _ => rfl) nofun)
  | rxAck k => rw [pre_rxAck]; exact nofun
  | rxRsp key => rw [pre_rxRsp]; exact nofun
  | tick =>
    cases hnd : nextDeadline ({ st with out := [] } : St) with
    | none => rw [pre_tick_none st hnd]; exact fun _ => rfl
    | some d => rw [pre_tick st d hnd]; exact nofun
  | cancel id => rw [pre_cancel]; exact ite_both (fun _ => rfl) nofun
  | close => rw [pre_close]; exact nofun
  | lost => rw [pre_lost]; exact nofun
  | setReset b => exact fun _ => rfl
  | connect => rw [pre_connect]; exact fun _ => ite_both rfl rfl

theorem rest_step (st : St) (e : Ev) (hg : Good st) (hq : st.ready = []) : (step st e).ready = [] := by
  rw [step_eq_pre]
  cases h2 : (pre st e).2
  · exact (pre_ready_of_false st e h2).trans hq
  · exact settle_rest _ _ (inv2_pre st e hg.inv) (flag_pre st e hg.flags) (nu_le_fuel _)

/-- the hypothesis `ready = []` of the theorems about successive events is met after every event of every history -/
theorem rest_reachable (evs : List Ev) : (runEvents {} evs).1.ready = [] :=
  reachable_ind (P := fun s => s.ready = []) rfl (fun evs e h => rest_step _ e (good_reachable evs) h) evs

theorem good_ticks (k : Nat) (st : St) (hg : Good st) : Good (ticks k st) := by
  induction k generalizing st with
  | zero => exact hg
  | succ k ih => exact ih _ (good_step st .tick hg)

theorem rest_ticks (k : Nat) (st : St) (hg : Good st) (hq : st.ready = []) : (ticks k st).ready = [] := by
  induction k generalizing st with
  | zero => exact hq
  | succ k ih => exact ih _ (good_step st .tick hg) (rest_step st .tick hg hq)

/-- `loss_drains` from a state at rest: the loop is at rest again before every expiry -/
theorem loss_drains_at_rest (n : Nat) (st : St) (hg : Good st) (hclosed : st.isOpen = false) (hq : st.ready = [])
    (hn : pot (view st) ≤ n) : ∀ r ∈ (ticks n st).reqs, r.phase = .done :=
  loss_drains n st hg hclosed (fun k _ => rest_ticks k st hg hq) hn

end Zboss.Host
