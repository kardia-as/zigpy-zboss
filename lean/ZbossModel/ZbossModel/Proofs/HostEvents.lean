import ZbossModel.Proofs.HostMicro
/-! An event = its immediate effect (`pre`), then the run of the ready tasks (`step_eq_pre`).  The immediate effect is
    in turn a short sequence of *elementary effects* (`Eff`, `pre_effs`), so what every elementary effect and a
    reconnect preserve, the immediate effect of every event preserves (`pre_ind`).  The three effects that reach
    requests from outside their tasks are of one shape (`Change`).  Also here: the immediate effect of each event as an
    equation in its pieces (`pre_start` … `pre_connect`), the timer that fires next (`nextDeadline_*`, `mem_rspDue_tickAck`),
    and induction over histories from the end (`history_ind`, `reachable_ind`, `reachable_log_ind`). -/
namespace Zboss.Host

/-- the immediate effect of an event, before any task runs; the flag says whether tasks are run afterwards -/
def pre (st0 : St) (e : Ev) : St × Bool :=
  let st := { st0 with out := [] }
  match e with
  | .start id key blocking nfrags timeout =>
    if st.reqs.any (·.id == id) then (st, false) else
    if !st.isOpen then (emit st (.done id .runtimeError), false) else
    ({ st with reqs := st.reqs ++ [{ id, key, blocking, nfrags, timeout }],
               listeners := st.listeners ++ [(id, key)], ready := st.ready ++ [id] }, true)
  | .rxAck k =>
    if k = st.pack then
      let woken := (st.reqs.filter fun r => r.phase == .waitAck && r.gen == st.gen).map (·.id)
      ({ st with pack := st.pack % 3 + 1,
                 reqs := st.reqs.map fun r => if r.phase == .waitAck && r.gen == st.gen then { r with phase := .acked } else r,
                 ready := st.ready ++ woken }, true)
    else (st, true)
  | .rxRsp key =>
    let st := if st.transport then emit st .wack else st
    match st.listeners.find? (fun l => l.2 == key) with
    | none => (st, true)
    | some (i, _) =>
      let waiting := (getReq st i).map (·.phase == .waitRsp) |>.getD false
      let st := updReq { st with listeners := st.listeners.filter (·.1 != i) } i fun r => { r with got := .rsp }
      ((if waiting then { st with ready := st.ready ++ [i] } else st), true)
  | .tick =>
    match nextDeadline st with
    | none => (st, false)
    | some d =>
      let st := { st with now := max st.now d }
      let expiredAck := (st.reqs.filter fun (r : Req) => r.phase == Phase.waitAck && r.deadline ≤ st.now).map (·.id)
      let st := { st with reqs := st.reqs.map fun (r : Req) =>
                            if r.phase == Phase.waitAck && r.deadline ≤ st.now then { r with phase := Phase.acked } else r,
                          ready := st.ready ++ expiredAck }
      let expiredRsp := (st.reqs.filter fun (r : Req) => r.phase == Phase.waitRsp && r.deadline ≤ st.now && r.got == Got.nothing).map (·.id)
      (expiredRsp.foldl (fun s i => unwind s i .timeoutError) st, true)
  | .cancel id =>
    match getReq st id with
    | none => (st, false)
    | some r => if r.phase == .done then (st, false) else (unwind st id .cancelled, true)
  | .close =>
    if st.resetting then
      ((if st.isOpen then { (emit st .closeOut) with transport := false, pack := 0, isOpen := false } else st), true)
    else
      let waiting := (st.listeners.filter fun l => ((getReq st l.1).map (·.phase == .waitRsp)).getD false).map (·.1)
      let ids := st.listeners.map (·.1)
      let st := { st with reqs := st.reqs.map fun r => if ids.contains r.id then { r with got := .cancelled } else r,
                          listeners := [], ready := st.ready ++ waiting }
      ((if st.isOpen then { (emit st .closeOut) with transport := false, pack := 0, isOpen := false } else st), true)
  | .lost =>
    let st := { st with isOpen := false }
    ((if st.resetting then st else emit st .appLost), true)
  | .setReset b => ({ st with resetting := b }, false)
  | .connect =>
    ((if st.isOpen then st else { st with isOpen := true, transport := true, pack := 0, gen := st.gen + 1 }), false)

theorem step_eq_pre (st : St) (e : Ev) :
    step st e = cond (pre st e).2 (settleAll (pre st e).1) (pre st e).1 := by
  cases e with
  | start id key blocking nfrags timeout =>
    rw [step, pre]
    cases st.reqs.any (·.id == id) <;> cases st.isOpen <;> rfl
  | rxAck k =>
    rw [step, pre]
    by_cases h : k = ({ st with out := [] } : St).pack
    · rw [if_pos h, if_pos h]; rfl
    · rw [if_neg h, if_neg h]; rfl
  | rxRsp key =>
    rw [step, pre]
    generalize (if ({ st with out := [] } : St).transport = true then emit ({ st with out := [] } : St) Out.wack
      else ({ st with out := [] } : St)) = st1
    cases st1.listeners.find? (fun l => l.2 == key) <;> rfl
  | tick =>
    rw [step, pre]
    cases nextDeadline ({ st with out := [] } : St) with
    | none => rfl
    | some d => exact (cond_true _ _).symm
  | cancel id =>
    rw [step, pre]
    cases getReq ({ st with out := [] } : St) id with
    | none => rfl
    | some r =>
      dsimp only
      -- (`rfl` would start by unfolding `settleAll` here)
      split
      · exact (cond_false _ _).symm
      · exact (cond_true _ _).symm
  | close => rw [step, pre]; cases st.resetting <;> rfl
  | lost | setReset b | connect => rfl

/-! ## the pieces -/

/-- outputs of task steps: fragments written and completions -/
def isWD : Out → Bool
  | .write _ _ _ _ => true
  | .done _ _ => true
  | _ => false

/-- `close()` outside a reset: every registered waiter is cancelled, those already in their response wait are woken -/
def cancelAll (st : St) : St :=
  { st with reqs := st.reqs.map fun r => if (st.listeners.map (·.1)).contains r.id then { r with got := .cancelled } else r,
            listeners := [],
            ready := st.ready ++ (st.listeners.filter fun l => ((getReq st l.1).map (·.phase == .waitRsp)).getD false).map (·.1) }

/-- request `i` gets its response: its listener goes, its future is resolved, and it is woken if it is waiting for it -/
def answer (st : St) (i : Nat) : St :=
  let st' := updReq { st with listeners := st.listeners.filter (·.1 != i) } i fun r => { r with got := .rsp }
  if ((getReq st i).map (·.phase == .waitRsp)).getD false then { st' with ready := st'.ready ++ [i] } else st'

theorem answer_eq (st : St) (i : Nat) :
    answer st i =
      { st with reqs := st.reqs.map fun r => if (r.id == i) = true then { r with got := .rsp } else r,
                listeners := st.listeners.filter (·.1 != i),
                ready := if ((getReq st i).map (·.phase == .waitRsp)).getD false = true then st.ready ++ [i] else st.ready } := by
  unfold answer
  split <;> rfl

theorem reqs_answer (st : St) (i : Nat) :
    (answer st i).reqs = st.reqs.map fun r => if (r.id == i) = true then { r with got := Got.rsp } else r := by
  rw [answer_eq]

/-- ACK waits selected by `c` end (matching ACK, or expiry) -/
def ackEnd (st : St) (c : Req → Bool) : St :=
  { st with reqs := st.reqs.map fun r => if c r then { r with phase := .acked } else r,
            ready := st.ready ++ (st.reqs.filter c).map (·.id) }

/-- the timer `d` fires: the clock moves on (never backwards) and the acknowledgement waits that are due end (`send`
    swallows the TimeoutError and returns) -/
def tickAck (st : St) (d : Nat) : St :=
  ackEnd { st with out := [], now := max st.now d } fun r => r.phase == .waitAck && decide (r.deadline ≤ max st.now d)

/-- the requests whose response wait is due: TimeoutError is raised out of them -/
def rspDue (st : St) : List Req :=
  st.reqs.filter fun r => r.phase == .waitRsp && decide (r.deadline ≤ st.now) && r.got == .nothing

/-- `connect()` is the one event that is not made of these effects -/
def reconnect (st : St) : St := { st with isOpen := true, transport := true, pack := 0, gen := st.gen + 1 }

/-! ## the events one by one -/

/-- The elaborator finds `P` (`elab_as_elim`), so this applies wherever the conditional stands in the goal. -/
@[elab_as_elim]
theorem ite_both {α : Sort u} {P : α → Prop} {c : Prop} [Decidable c] {a b : α} (ha : P a) (hb : P b) :
    P (if c then a else b) := by
  split <;> assumption

theorem pre_start (st : St) (id key : Nat) (blocking : Bool) (nfrags timeout : Nat) :
    pre st (.start id key blocking nfrags timeout) =
      if st.reqs.any (·.id == id) then ({ st with out := [] }, false)
      else if st.isOpen = false then (emit { st with out := [] } (.done id .runtimeError), false)
      else ({ st with out := [], reqs := st.reqs ++ [{ id, key, blocking, nfrags, timeout }],
                      listeners := st.listeners ++ [(id, key)], ready := st.ready ++ [id] }, true) :=
  ite_congr rfl (fun _ => rfl) fun _ => ite_congr (Bool.not_eq_true' _) (fun _ => rfl) fun _ => rfl

theorem pre_rxAck (st : St) (k : Nat) :
    pre st (.rxAck k) =
      (if k = st.pack then
        ackEnd { st with out := [], pack := st.pack % 3 + 1 } fun r => r.phase == .waitAck && r.gen == st.gen
       else { st with out := [] }, true) :=
  (apply_ite (fun s : St => (s, true)) _ _ _).symm

/-- the link-layer ACK of the response frame goes out if there is a transport; then the response is routed -/
theorem pre_rxRsp (st : St) (key : Nat) :
    pre st (.rxRsp key) =
      (match st.listeners.find? (fun l => l.2 == key) with
        | none => { st with out := if st.transport then [.wack] else [] }
        | some l => answer { st with out := if st.transport then [.wack] else [] } l.1, true) := by
  have : (if st.transport then emit { st with out := [] } .wack else { st with out := [] }) =
      { st with out := if st.transport then [.wack] else [] } := (apply_ite (fun o => { st with out := o }) _ _ _).symm
  show (match (if st.transport then emit { st with out := [] } .wack else { st with out := [] }).listeners.find?
    (fun l => l.2 == key) with | none => _ | some (i, _) => _) = _
  rw [this]
  cases st.listeners.find? (fun l => l.2 == key) <;> rfl

theorem pre_tick_none (st : St) (hnd : nextDeadline { st with out := [] } = none) :
    pre st .tick = ({ st with out := [] }, false) := by
  simp only [pre, hnd]

theorem pre_tick (st : St) (d : Nat) (hnd : nextDeadline { st with out := [] } = some d) :
    pre st .tick =
      (((rspDue (tickAck st d)).map (·.id)).foldl (fun s i => unwind s i .timeoutError) (tickAck st d), true) := by
  simp only [pre, hnd]; rfl

theorem pre_cancel (st : St) (id : Nat) :
    pre st (.cancel id) =
      if (getReq st id).all (·.phase == .done) then ({ st with out := [] }, false)
      else (unwind { st with out := [] } id .cancelled, true) := by
  show (match getReq st id with | none => _ | some r => _) = _
  cases getReq st id <;> rfl

theorem pre_lost (st : St) :
    pre st .lost = ({ st with isOpen := false, out := if st.resetting then [] else [.appLost] }, true) := by
  obtain ⟨now, isOpen, transport, resetting, pack, reqs, bq, mq, tq, listeners, ready, out, gen⟩ := st
  cases resetting <;> rfl

theorem pre_close (st : St) :
    pre st .close = ({ (if st.resetting then st else cancelAll st) with
        out := if st.isOpen then [.closeOut] else [], isOpen := false,
        transport := !st.isOpen && st.transport, pack := if st.isOpen then 0 else st.pack }, true) := by
  obtain ⟨now, isOpen, transport, resetting, pack, reqs, bq, mq, tq, listeners, ready, out, gen⟩ := st
  cases resetting <;> cases isOpen <;> rfl

theorem pre_setReset (st : St) (b : Bool) : pre st (.setReset b) = ({ st with out := [], resetting := b }, false) := rfl

theorem pre_connect (st : St) :
    pre st .connect = (if st.isOpen then { st with out := [] } else reconnect { st with out := [] }, false) := rfl

/-! ## elementary effects -/

/-- Of these the immediate effects are made (`pre_effs`).  `start`: `refuse` or `add`; `rxAck`: `regs`, `ackEnd`; `rxRsp`:
    `emit`, `answer`; `tick`: `regs`, `ackEnd`, an `unwind` per response wait that is due; `cancel`: `unwind`; `close`:
    `cancelAll`, `emit`, `closeUart`; `lost`: `lost`, `emit`; `setReset`: `regs`. -/
inductive Eff : St → St → Prop
  -- the clock, the packet number, the reset flag
  | regs (st : St) (now pack : Nat) (resetting : Bool) : Eff st { st with now, pack, resetting }
  | emit (st : St) (o : Out) (ho : isWD o = false) : Eff st (emit st o)
  | refuse (st : St) (id : Nat) (hfresh : ∀ r ∈ st.reqs, r.id ≠ id) : Eff st (emit st (.done id .runtimeError))
  | add (st : St) (id key : Nat) (blocking : Bool) (nfrags timeout : Nat) (hfresh : ∀ r ∈ st.reqs, r.id ≠ id)
      (ho : st.isOpen = true) :
      Eff st { st with reqs := st.reqs ++ [{ id, key, blocking, nfrags, timeout }],
                       listeners := st.listeners ++ [(id, key)], ready := st.ready ++ [id] }
  | ackEnd (st : St) (c : Req → Bool) (hc : ∀ r, c r = true → r.phase = .waitAck) : Eff st (ackEnd st c)
  -- the response for `key` is routed to the oldest waiter `i` for it
  | answer (st : St) (i k key : Nat) (h : st.listeners.find? (fun l => l.2 == key) = some (i, k)) : Eff st (answer st i)
  | unwind (st : St) (i : Nat) (o : Outcome) : Eff st (unwind st i o)
  | cancelAll (st : St) : Eff st (cancelAll st)
  | closeUart (st : St) : Eff st { st with transport := false, pack := 0, isOpen := false }
  | lost (st : St) : Eff st { st with isOpen := false }

inductive Effs : St → St → Prop
  | refl (st : St) : Effs st st
  | tail {a b c : St} : Effs a b → Eff b c → Effs a c

theorem Effs.ind {P : St → Prop} (h : ∀ a b, Eff a b → P a → P b) {a b : St} (hs : Effs a b) (ha : P a) : P b := by
  induction hs with
  | refl => exact ha
  | tail _ he ih => exact h _ _ he ih

theorem Effs.one {a b : St} (h : Eff a b) : Effs a b := .tail (.refl a) h

theorem Effs.trans {a b c : St} (h1 : Effs a b) (h2 : Effs b c) : Effs a c := by
  induction h2 with
  | refl => exact h1
  | tail _ he ih => exact .tail ih he

theorem foldl_unwind_ind {P : St → Prop} (ids : List Nat) (o : Outcome)
    (h : ∀ s, ∀ i ∈ ids, P s → P (unwind s i o)) (st : St) (h0 : P st) :
    P (ids.foldl (fun s i => unwind s i o) st) := by
  induction ids generalizing st with
  | nil => exact h0
  | cons i is ih =>
    rw [List.foldl_cons]
    exact ih (fun s x hx => h s x (List.mem_cons_of_mem _ hx)) _ (h st i (List.mem_cons_self ..) h0)

theorem effs_foldl_unwind (ids : List Nat) (st : St) (o : Outcome) : Effs st (ids.foldl (fun s i => unwind s i o) st) :=
  foldl_unwind_ind ids o (fun s i _ hs => hs.tail (.unwind s i o)) st (.refl st)

theorem pre_effs (st : St) (e : Ev) (hne : e ≠ .connect) : Effs { st with out := [] } (pre st e).1 := by
  cases e with
  | start id key blocking nfrags timeout =>
    rw [pre_start]
    by_cases hfresh : st.reqs.any (·.id == id) = true
    · rw [if_pos hfresh]; exact .refl _
    have hnotin : ∀ r ∈ st.reqs, r.id ≠ id := fun r hr hri => hfresh (List.any_eq_true.mpr ⟨r, hr, beq_iff_eq.2 hri⟩)
    rw [if_neg hfresh]
    by_cases ho : st.isOpen = false
    · rw [if_pos ho]; exact .one (.refuse _ id hnotin)
    · rw [if_neg ho]
      exact .one (.add { st with out := [] } id key blocking nfrags timeout hnotin (Bool.of_not_eq_false ho))
  | rxAck k =>
    rw [pre_rxAck]
    exact ite_both ((Effs.one (.regs _ st.now (st.pack % 3 + 1) st.resetting)).tail
      (.ackEnd _ _ fun r hc => by simp at hc; exact hc.1)) (.refl _)
  | rxRsp key =>
    rw [pre_rxRsp]
    have h1 : Effs { st with out := [] } { st with out := if st.transport then [.wack] else [] } :=
      ite_both (.one (.emit { st with out := [] } .wack rfl)) (.refl _)
    cases hfind : st.listeners.find? (fun l => l.2 == key) with
    | none => exact h1
    | some l => exact h1.tail (.answer _ l.1 l.2 key hfind)
  | tick =>
    cases hnd : nextDeadline { st with out := [] } with
    | none => rw [pre_tick_none st hnd]; exact .refl _
    | some d =>
      rw [pre_tick st d hnd]
      exact ((Effs.one (.regs _ (max st.now d) st.pack st.resetting)).tail
        (.ackEnd _ _ fun r hc => by simp at hc; exact hc.1)).trans (effs_foldl_unwind _ _ _)
  | cancel id => rw [pre_cancel]; exact ite_both (.refl _) (.one (.unwind _ id .cancelled))
  | close =>
    have hclose : ∀ s : St, Effs s (if s.isOpen = true then { (emit s .closeOut) with transport := false, pack := 0, isOpen := false } else s) := by
      intro s; split
      · exact (Effs.one (.emit s .closeOut rfl)).tail (.closeUart _)
      · exact .refl _
    show Effs _ (if st.resetting = true then (_, true) else (_, true)).1
    cases st.resetting
    · exact (Effs.one (.cancelAll _)).trans (hclose _)
    · exact hclose _
  | lost => rw [pre_lost]; exact ite_both (.one (.lost _)) ((Effs.one (.lost _)).tail (.emit _ .appLost rfl))
  | setReset b => exact .one (.regs _ st.now st.pack b)
  | connect => exact absurd rfl hne

theorem pre_ind {P : St → Prop} (heff : ∀ a b, Eff a b → P a → P b) (hconn : ∀ a, a.isOpen = false → P a → P (reconnect a))
    (st : St) (e : Ev) (h : P { st with out := [] }) : P (pre st e).1 := by
  by_cases hne : e = .connect
  · subst hne
    exact iteInduction (motive := P) (fun _ => h) fun ho => hconn _ (Bool.eq_false_iff.mpr ho) h
  · exact (pre_effs st e hne).ind heff h

theorem step_ind {P : St → Prop} (hready : ∀ st rd, P st → P { st with ready := rd })
    (hmicro : ∀ st i, P st → P (runReq 1 st i)) (st : St) (e : Ev) (h : P (pre st e).1) : P (step st e) := by
  rw [step_eq_pre]
  cases (pre st e).2
  · exact h
  · exact settle_ind P hready hmicro _ _ h

/-! ## `Passive` and `Change` -/

/-- what an event does to a request from outside its task: nothing; or its acknowledgement wait ends; or its response
    future is resolved or cancelled -/
inductive Passive (r : Req) : Req → Prop
  | same : Passive r r
  | acked (h : r.phase = .waitAck) : Passive r { r with phase := .acked }
  | got (v : Got) (h : v ≠ .nothing) : Passive r { r with got := v }

theorem Passive.id_eq {r r' : Req} (h : Passive r r') : r'.id = r.id := by cases h <;> rfl
theorem Passive.key {r r' : Req} (h : Passive r r') : r'.key = r.key := by cases h <;> rfl
theorem Passive.blocking {r r' : Req} (h : Passive r r') : r'.blocking = r.blocking := by cases h <;> rfl
theorem Passive.holds {r r' : Req} (h : Passive r r') (l : Lock) : holds r' l = holds r l := by cases h <;> cases l <;> rfl

theorem Passive.phase {r r' : Req} (h : Passive r r') : r'.phase = r.phase ∨ (r.phase = .waitAck ∧ r'.phase = .acked) := by
  cases h with
  | same | got => exact .inl rfl
  | acked hp => exact .inr ⟨hp, rfl⟩

theorem Passive.done_iff {r r' : Req} (h : Passive r r') : r'.phase = .done ↔ r.phase = .done := by
  cases h with
  | same | got => exact .rfl
  | acked hp => exact ⟨nofun, fun hd => by rw [hp] at hd; cases hd⟩

theorem Passive.got_nothing {r r' : Req} (h : Passive r r') (hg : r'.got = .nothing) : r.got = .nothing := by
  cases h with
  | same | acked => exact hg
  | got v hv => exact absurd hg hv

/-- The shape shared by `ackEnd`, `answer` and `cancelAll`: every request changes passively; the listener of a pending
    response future stays exactly if the future is still pending afterwards; the ready list grows, and whoever has left
    its acknowledgement wait, or had its future changed while waiting for the response, is on it. -/
inductive Change (a : St) : St → Prop
  | mk (g : Req → Req) (keep : Nat × Nat → Bool) (L : List (Nat × Nat)) (R : List Nat) (hg : ∀ r, Passive r (g r))
      (hL : L = a.listeners.filter keep) (hR : ∀ j ∈ a.ready, j ∈ R)
      (hkeep : ∀ r, r.got = .nothing → ((g r).got = .nothing ↔ keep (r.id, r.key) = true))
      (hwake : (a.reqs.map (·.id)).Nodup → ∀ r ∈ a.reqs,
        (g r).phase ≠ r.phase ∨ (r.phase = .waitRsp ∧ (g r).got ≠ r.got) → r.id ∈ R) :
      Change a { a with reqs := a.reqs.map g, listeners := L, ready := R }

theorem Change.pick {a : St} (c : Req → Bool) (f : Req → Req) (keep : Nat × Nat → Bool) {L : List (Nat × Nat)} {R : List Nat}
    (hf : ∀ r, c r = true → Passive r (f r)) (hL : L = a.listeners.filter keep) (hR : ∀ j ∈ a.ready, j ∈ R)
    (hkeep : ∀ r, r.got = .nothing → ((if c r = true then f r else r).got = .nothing ↔ keep (r.id, r.key) = true))
    (hwake : (a.reqs.map (·.id)).Nodup → ∀ r ∈ a.reqs, c r = true → (f r).phase ≠ r.phase ∨ r.phase = .waitRsp → r.id ∈ R) :
    Change a { a with reqs := a.reqs.map fun r => if c r = true then f r else r, listeners := L, ready := R } := by
  refine .mk _ keep L R (fun r => ?_) hL hR hkeep fun hn r hr hch => ?_
  · split
    · next h => exact hf r h
    · exact .same
  · split at hch
    · next h => exact hwake hn r hr h (hch.imp_right (·.1))
    · exact hch.elim (absurd rfl) (absurd rfl ·.2)

theorem Change.ackEnd (a : St) (c : Req → Bool) (hc : ∀ r, c r = true → r.phase = .waitAck) : Change a (ackEnd a c) :=
  .pick c _ (fun _ => true) (fun r h => .acked (hc r h)) (List.filter_eq_self.mpr fun _ _ => rfl).symm
    (fun j hj => List.mem_append_left _ hj)
    -- no future is touched, and everyone picked is woken
    (fun r hgot => iff_of_true (by split <;> exact hgot) rfl)
    fun _ r hr h _ => List.mem_append_right _ (List.mem_map.mpr ⟨r, List.mem_filter.mpr ⟨hr, h⟩, rfl⟩)

theorem Change.answer (a : St) (i : Nat) : Change a (answer a i) := by
  rw [answer_eq]
  refine .pick (·.id == i) _ (·.1 != i) (fun _ _ => .got .rsp nofun) rfl (fun j hj => ?_) (fun r hgot => ?_)
    fun hn r hr hri hp => ?_
  · split
    · exact List.mem_append_left _ hj
    · exact hj
  · -- the future of request `i` is resolved, and it is the listener of `i` that goes
    show _ ↔ (r.id != i) = true
    split
    · next hri => exact iff_of_false nofun (by simpa using hri)
    · next hri => exact iff_of_true hgot (by simpa using hri)
  · have hp : r.phase = .waitRsp := hp.resolve_left fun h => h rfl
    obtain rfl : r.id = i := beq_iff_eq.mp hri
    rw [getReq_of_mem a hn r hr, if_pos (by show (r.phase == Phase.waitRsp) = true; rw [hp]; rfl)]
    exact List.mem_append_right _ (List.mem_singleton.mpr rfl)

theorem Change.cancelAll (a : St) : Change a (cancelAll a) := by
  refine .pick (fun r => (a.listeners.map (·.1)).contains r.id) _ (fun l => !(a.listeners.map (·.1)).contains l.1)
    (fun _ _ => .got .cancelled nofun) (Eq.symm ?_) (fun j hj => List.mem_append_left _ hj) (fun r hgot => ?_)
    fun hn r hr hri hp => ?_
  · refine List.filter_eq_nil_iff.mpr fun l hl => ?_
    rw [List.contains_iff_mem.mpr (List.mem_map_of_mem (f := (·.1)) hl)]
    exact Bool.false_ne_true
  · show _ ↔ (!(a.listeners.map (·.1)).contains r.id) = true
    split
    · next hc => rw [hc]; exact iff_of_false nofun Bool.false_ne_true
    · next hc => rw [Bool.not_eq_true _ |>.mp hc]; exact iff_of_true hgot rfl
  · -- a request in its response wait is woken through its listener
    have hp : r.phase = .waitRsp := hp.resolve_left fun h => h rfl
    obtain ⟨l, hl, hli⟩ := List.mem_map.mp (List.contains_iff_mem.mp hri)
    refine List.mem_append_right _ (List.mem_map.mpr ⟨l, List.mem_filter.mpr ⟨hl, ?_⟩, hli⟩)
    rw [hli, getReq_of_mem a hn r hr]
    show (r.phase == Phase.waitRsp) = true
    rw [hp]; rfl

/-- a response nobody waits for, at rest: the link-layer ACK and nothing else -/
theorem step_rxRsp_none (st : St) (key : Nat) (hnone : st.listeners.find? (fun l => l.2 == key) = none)
    (hq : st.ready = []) : step st (.rxRsp key) = { st with out := if st.transport then [.wack] else [] } := by
  rw [step_eq_pre, pre_rxRsp, hnone]; exact settle_idle _ _ hq

/-! ## the timer event -/

theorem foldl_min_eq_min? (f : Option Nat → Nat → Option Nat) (h0 : ∀ d, f none d = some d)
    (h1 : ∀ a d, f (some a) d = some (min a d)) (l : List Nat) : l.foldl f none = l.min? := by
  cases l with
  | nil => rfl
  | cons a t =>
    rw [List.min?_cons', List.foldl_cons, h0]
    induction t generalizing a with
    | nil => rfl
    | cons b t ih => rw [List.foldl_cons, List.foldl_cons, h1]; exact ih (min a b)

theorem nextDeadline_eq (st : St) :
    nextDeadline st =
      ((st.reqs.filter fun r => r.phase == .waitAck || r.phase == .waitRsp).map (·.deadline)).min? :=
  foldl_min_eq_min? _ (fun _ => rfl) (fun _ _ => rfl) _

theorem nextDeadline_none {st : St} (h : nextDeadline st = none) :
    ∀ r ∈ st.reqs, r.phase ≠ .waitAck ∧ r.phase ≠ .waitRsp := by
  rw [nextDeadline_eq, List.min?_eq_none_iff, List.map_eq_nil_iff, List.filter_eq_nil_iff] at h
  intro r hr
  simpa using h r hr

theorem nextDeadline_some {st : St} {d : Nat} (h : nextDeadline st = some d) :
    ∃ j ∈ st.reqs, (j.phase = .waitAck ∨ j.phase = .waitRsp) ∧ j.deadline = d := by
  rw [nextDeadline_eq] at h
  obtain ⟨j, hj, hd⟩ := List.mem_map.mp (List.min?_mem h)
  obtain ⟨hjm, hc⟩ := List.mem_filter.mp hj
  exact ⟨j, hjm, by simpa using hc, hd⟩

theorem mem_rspDue {st : St} {r : Req} :
    r ∈ rspDue st ↔ r ∈ st.reqs ∧ r.phase = .waitRsp ∧ r.deadline ≤ st.now ∧ r.got = .nothing := by
  simp [rspDue, and_assoc]

theorem mem_rspDue_tickAck {st : St} {d : Nat} {r : Req} :
    r ∈ rspDue (tickAck st d) ↔ r ∈ st.reqs ∧ r.phase = .waitRsp ∧ r.deadline ≤ max st.now d ∧ r.got = .nothing := by
  rw [mem_rspDue]
  constructor
  · rintro ⟨hm, hp, hd, hg⟩
    obtain ⟨x, hx, rfl⟩ := List.mem_map.mp hm
    -- a request whose ACK wait has just ended is not in its response wait
    split at hp
    · cases hp
    · next hc => rw [if_neg hc] at hd hg ⊢; exact ⟨hx, hp, hd, hg⟩
  · rintro ⟨hm, hp, hd, hg⟩
    exact ⟨List.mem_map.mpr ⟨r, hm, if_neg (by simp [hp])⟩, hp, hd, hg⟩

/-! ## whole histories -/

theorem runEvents_snoc (st : St) (evs : List Ev) (e : Ev) :
    runEvents st (evs ++ [e]) =
      (step (runEvents st evs).1 e, (runEvents st evs).2 ++ [(step (runEvents st evs).1 e).out]) := by
  simp [runEvents, List.foldl_append]

/-- induction from the end: the step case has the whole history so far at hand, so what is already known of every
    reachable state can be used in it -/
theorem history_ind {Q : List Ev → Prop} (h0 : Q []) (hs : ∀ evs e, Q evs → Q (evs ++ [e])) (evs : List Ev) : Q evs := by
  have : ∀ l : List Ev, Q l.reverse := by
    intro l
    induction l with
    | nil => exact h0
    | cons e l ih => rw [List.reverse_cons]; exact hs _ e ih
  simpa using this evs.reverse

theorem reachable_ind {P : St → Prop} (h0 : P {})
    (hs : ∀ evs e, P (runEvents {} evs).1 → P (step (runEvents {} evs).1 e)) (evs : List Ev) : P (runEvents {} evs).1 :=
  history_ind (Q := fun evs => P (runEvents {} evs).1) h0 (fun evs e h => by rw [runEvents_snoc]; exact hs evs e h) evs

theorem reachable_log_ind {X : List Out → St → Prop} (h0 : X [] {})
    (hs : ∀ evs e hist, X hist (runEvents {} evs).1 →
      X (hist ++ (runEvents {} evs).1.out) (step (runEvents {} evs).1 e)) (evs : List Ev) :
    ∃ hist, (runEvents {} evs).2.flatten = hist ++ (runEvents {} evs).1.out ∧ X hist (runEvents {} evs).1 := by
  induction evs using history_ind with
  | h0 => exact ⟨[], rfl, h0⟩
  | hs evs e ih =>
    obtain ⟨hist, hl, hx⟩ := ih
    rw [runEvents_snoc]
    exact ⟨hist ++ (runEvents {} evs).1.out, by simp [hl], hs evs e hist hx⟩

end Zboss.Host
