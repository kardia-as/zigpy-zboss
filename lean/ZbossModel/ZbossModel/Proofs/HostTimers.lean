import ZbossModel.Proofs.HostLive
/-! Timers: a finished request stays finished; a response wait ends when its timer fires. -/
namespace Zboss.Host

/-- there is a request `i`, and it has ended -/
def DoneV (i : Nat) (v : View) : Prop := ∃ c ∈ v.cores, c.id = i ∧ c.phase = .done

theorem donev_settle (fuel : Nat) (st : St) (i : Nat) (hinv : Inv2 st) (h : DoneV i (view st)) :
    DoneV i (view (settle fuel st)) :=
  view_settle (P := DoneV i) (inPhase_micro (.inr rfl) i) fuel st hinv h

theorem donev_unwind (st : St) (i j : Nat) (o : Outcome)
    (h : DoneV i (view st) ∨ (j = i ∧ i ∈ st.reqs.map (·.id))) : DoneV i (view (unwind st j o)) := by
  rw [view_unwind]
  -- a core with id `i`, finished already or about to be: `toDone` is applied to it or it is left alone
  obtain ⟨c, hc, hi, hp⟩ : ∃ c ∈ (view st).cores, c.id = i ∧ (c.phase = .done ∨ j = i) := by
    rcases h with ⟨c, hc, hi, hp⟩ | ⟨hj, hm⟩
    · exact ⟨c, hc, hi, .inl hp⟩
    · obtain ⟨r, hr, hi⟩ := List.mem_map.mp hm
      exact ⟨core r, List.mem_map.mpr ⟨r, hr, rfl⟩, hi, .inr hj⟩
  refine ⟨_, mem_upd_of (i := j) (g := toDone) hc, ?_⟩
  split
  · exact ⟨hi, rfl⟩
  · rename_i hne
    exact ⟨hi, hp.resolve_right fun hj => hne (by rw [hi, hj]; exact beq_self_eq_true i)⟩

theorem response_wait_ends (st : St) (hinv : Inv2 st) (r : Req) (hr : r ∈ st.reqs) (hp : r.phase = .waitRsp)
    (hgot : r.got = .nothing) (d : Nat) (hnd : nextDeadline ({ st with out := [] } : St) = some d)
    (hdue : r.deadline ≤ max st.now d) :
    ∃ r' ∈ (step st .tick).reqs, r'.id = r.id ∧ r'.phase = .done := by
  -- `r` is among the requests that unwind: up to its turn it exists, from then on it has ended
  obtain ⟨l1, l2, hl⟩ := List.append_of_mem
    (List.mem_map_of_mem (f := (·.id)) (mem_rspDue_tickAck.mpr ⟨hr, hp, hdue, hgot⟩))
  have hpreD : DoneV r.id (view (pre st .tick).1) := by
    rw [pre_tick st d hnd, hl, List.foldl_append, List.foldl_cons]
    refine foldl_unwind_ind l2 _ (fun s j _ hs => donev_unwind s r.id j _ (.inl hs)) _
      (donev_unwind _ r.id r.id _ (.inr ⟨rfl, ?_⟩))
    refine foldl_unwind_ind (P := fun s => r.id ∈ s.reqs.map (·.id)) l1 _
      (fun s j _ hs => by rw [ids_unwind]; exact hs) _ ?_
    exact List.mem_map.mpr ⟨_, List.mem_map_of_mem hr, by split <;> rfl⟩
  obtain ⟨c, hc, hi, hph⟩ := view_step (P := DoneV r.id) (inPhase_micro (.inr rfl) r.id) st .tick hinv hpreD
  obtain ⟨r', hr', rfl⟩ := List.mem_map.mp hc
  exact ⟨r', hr', hi, hph⟩

end Zboss.Host
