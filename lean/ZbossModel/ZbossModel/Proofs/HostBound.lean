import ZbossModel.Proofs.HostLive
/-! After `close()`: the one acknowledgement wait that may still be pending is the only thing left to wait for; when
    its timer fires, every request ends. -/
namespace Zboss.Host

/-- no request is about to write (`waitT`) or waiting for an acknowledgement -/
def Calm (v : View) : Prop := ∀ c ∈ v.cores, c.phase ≠ .waitT ∧ c.phase ≠ .waitAck

theorem calm_upd (v : View) (i : Nat) (g : Core → Core) (hg : ∀ c, (g c).phase ≠ .waitT ∧ (g c).phase ≠ .waitAck)
    (h : Calm v) : Calm (v.upd i g) :=
  forall_mem_upd (fun c hc _ => h c hc) fun c _ _ => hg c

theorem calm_unwind (st : St) (i : Nat) (o : Outcome) (h : Calm (view st)) : Calm (view (unwind st i o)) := by
  rw [view_unwind]; exact calm_upd _ i toDone (fun _ => ⟨nofun, nofun⟩) h

/-- the only way into `waitT` is from `sendfrag`; every other micro-step keeps the view calm -/
theorem calm_step {v v' : View} {i : Nat} {c0 : Core} (h0 : c0 ∈ v.cores) (hm : MicroStep v i c0 v')
    (hsf : c0.phase ≠ .sendfrag) (h : Calm v) : Calm v' := by
  cases hm with
  | stay => exact h
  | move g ha =>
    -- of the six moves, the one out of `sendfrag` is excluded and the one out of `waitT` does not occur
    refine calm_upd v i g (fun c => ?_) h
    rcases ha with ⟨_, rfl⟩ | ⟨_, rfl⟩ | ⟨hp, _⟩ | ⟨hp, _⟩ | ⟨_, _, rfl⟩ | ⟨_, _, rfl⟩
    · exact ⟨nofun, nofun⟩
    · exact ⟨nofun, nofun⟩
    · exact absurd hp hsf
    · exact absurd hp (h c0 h0).1
    · exact ⟨nofun, nofun⟩
    · exact ⟨nofun, nofun⟩
  | write s hp _ => exact absurd hp (h c0 h0).1
  | fin o _ => exact calm_upd v i toDone (fun _ => ⟨nofun, nofun⟩) h

theorem calm_micro (st : St) (i : Nat) (hclosed : st.isOpen = false) (h : Calm (view st)) :
    Calm (view (runReq 1 st i)) := by
  cases hg : getReq st i with
  | none => rw [runReq_none st i hg]; exact h
  | some r =>
    by_cases hsf : r.phase = .sendfrag
    · -- `_send_to_uart` finds the API closed and raises
      rw [runReq_sendfrag st i r hg hsf, hclosed]
      exact calm_unwind st i _ h
    · exact calm_step (List.mem_map_of_mem (getReq_mem st i r hg).1) (micro_view st i r hg) hsf h

theorem calm_settle (fuel : Nat) (st : St) (hclosed : st.isOpen = false) (h : Calm (view st)) :
    Calm (view (settle fuel st)) :=
  (settle_ind (fun s => s.isOpen = false ∧ Calm (view s)) (fun _ _ hs => hs)
    (fun s i hs => ⟨(frame_runReq 1 s i).isOpen.trans hs.1, calm_micro s i hs.1 hs.2⟩) fuel st ⟨hclosed, h⟩).2

theorem calm_ackEnd (a : St) (c : Req → Bool) (hT : ∀ r ∈ a.reqs, r.phase ≠ .waitT)
    (hc : ∀ r ∈ a.reqs, r.phase = .waitAck → c r = true) : Calm (view (ackEnd a c)) := by
  intro x hx
  obtain ⟨r', hr', rfl⟩ := List.mem_map.mp hx
  obtain ⟨r, hr, rfl⟩ := List.mem_map.mp hr'
  split
  · exact ⟨nofun, nofun⟩
  · next hcr => exact ⟨hT r hr, fun hp => hcr (hc r hr hp)⟩

theorem no_waitRsp (st : St) (hg : Good st) (hs : Shut st) (hq : st.ready = []) :
    ∀ r ∈ st.reqs, r.phase ≠ .waitRsp := by
  intro r hrm hp
  -- not runnable, so parked: on its response future, which would still have its listener
  have hrun : r.phase ≠ .done := by rw [hp]; decide
  exact no_listener_no_wait hg.cov hs.2 hrm hrun ((hg.live.parked hq hrm hrun).got hp)

/-- the timer that fires next after `close()` is the pending acknowledgement wait, and when it fires nothing is left
    that could write a frame or wait for an acknowledgement -/
theorem calm_after_tick (st : St) (hg : Good st) (hs : Shut st) (hq : st.ready = []) :
    Calm (view (step st .tick)) ∧
    (∀ j ∈ st.reqs, j.phase = .waitAck → (step st .tick).now = max st.now j.deadline) := by
  have hnr := no_waitRsp st hg hs hq
  cases hnd : nextDeadline { st with out := [] } with
  | none =>
    -- no timer at all: the tick changes nothing, nobody waits for an acknowledgement, every request has ended (drain)
    have hnone : ∀ r ∈ st.reqs, r.phase ≠ .waitAck := fun r hrm => (nextDeadline_none hnd r hrm).1
    have hstep : step st .tick = { st with out := [] } := by rw [step_eq_pre, pre_tick_none st hnd]; rfl
    refine ⟨fun c hc => ?_, fun j hjm hjp => absurd hjp (hnone j hjm)⟩
    rw [hstep] at hc
    obtain ⟨r, hrm, rfl⟩ := List.mem_map.mp hc
    show r.phase ≠ _ ∧ r.phase ≠ _
    rw [drain_shut st hg hs hq hnone r hrm]
    exact ⟨nofun, nofun⟩
  | some d =>
    -- the timer pending is that of an acknowledgement wait, of a request `j`
    obtain ⟨j, hjm, hjp, rfl⟩ := nextDeadline_some hnd
    have hjp : j.phase = .waitAck := hjp.resolve_right (hnr j hjm)
    -- message lock: whoever is inside a transmission is `j`
    have hj : ∀ r ∈ st.reqs, inTransmit r.phase = true → r = j := fun r hrm ht =>
      same_of_inTransmit st hg.inv r j hrm hjm ht (by rw [hjp]; rfl)
    have hja : ∀ r ∈ st.reqs, r.phase = .waitAck → r = j := fun r hrm hp => hj r hrm (by rw [hp]; rfl)
    have hpre := pre_tick st _ hnd
    have hstep : step st .tick = settleAll (pre st .tick).1 := by rw [step_eq_pre, hpre]; exact cond_true _ _
    rw [hstep, hpre]
    constructor
    · refine calm_settle _ _ ((frame_foldl_unwind ..).isOpen.trans hs.1)
        (foldl_unwind_ind _ _ (fun s i _ => calm_unwind s i _) _ (calm_ackEnd _ _ ?_ ?_))
      · intro r hrm hp
        rw [hj r hrm (by rw [hp]; rfl), hjp] at hp; cases hp
      · intro r hrm hp
        rw [hja r hrm hp]
        simp [hjp, Nat.le_max_right]
    · intro j' hj'm hj'p
      rw [hja j' hj'm hj'p]
      exact (frame_settle ..).now.trans (frame_foldl_unwind ..).now

theorem shut_tick_drains (st : St) (hg : Good st) (hs : Shut st) (hq : st.ready = [])
    (hq' : (step st .tick).ready = []) :
    (∀ r ∈ (step st .tick).reqs, r.phase = .done) ∧
    (∀ j ∈ st.reqs, j.phase = .waitAck → (step st .tick).now = max st.now j.deadline) := by
  obtain ⟨hcalm, htime⟩ := calm_after_tick st hg hs hq
  refine ⟨?_, htime⟩
  apply drain_shut _ (good_step st .tick hg) (shut_step st .tick nofun hs) hq'
  exact fun r hrm => (hcalm (core r) (List.mem_map_of_mem hrm)).2

end Zboss.Host
