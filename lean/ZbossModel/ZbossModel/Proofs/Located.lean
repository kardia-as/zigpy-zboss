import ZbossModel.Proofs.Scanner
/-! Soundness and completeness of the resynchronising scanner with respect to stream positions. -/
namespace Zboss.Rx

theorem skip_spec (l : Bytes) :
    ∃ k, k ≤ l.length ∧ skip l = l.drop k ∧ ∀ m, m ≤ l.length → canon (l.drop m) = true → k ≤ m := by
  induction l with
  | nil => exact ⟨0, Nat.le_refl _, rfl, fun _ _ _ => Nat.zero_le _⟩
  | cons x t ih =>
    cases hc : canon (x :: t) with
    | true => exact ⟨0, Nat.zero_le _, skip_of_canon hc, fun _ _ _ => Nat.zero_le _⟩
    | false =>
      obtain ⟨k, hk, hs, hmin⟩ := ih
      refine ⟨k + 1, Nat.succ_le_succ hk, by rw [skip_of_not_canon hc, hs, List.drop_succ_cons], fun m hm hcm => ?_⟩
      cases m with
      | zero => rw [List.drop_zero, hc] at hcm; cases hcm
      | succ m => exact Nat.succ_le_succ (hmin m (Nat.le_of_succ_le_succ hm) hcm)

theorem offset_drop {α} (s : List α) {off m : Nat} (h1 : off ≤ m) (h2 : m ≤ s.length) :
    off + ((s.drop off).length - (s.drop m).length) = m := by
  obtain ⟨t, ht⟩ := Nat.exists_eq_add_of_le h2
  rw [List.length_drop, List.length_drop, ht, Nat.add_sub_cancel_left, Nat.sub_right_comm, Nat.add_sub_cancel,
    Nat.add_sub_cancel' h1]

/-- the third conjunct is the offset as `extractAt` computes it -/
theorem resync_drop (s : Bytes) (off : Nat) (hlt : off < s.length) :
    ∃ m, off < m ∧ m ≤ s.length ∧ off + ((s.drop off).length - (resync (s.drop off)).length) = m ∧
      resync (s.drop off) = s.drop m ∧
      ∀ i, off < i → i ≤ s.length → canon (s.drop i) = true → m ≤ i := by
  obtain ⟨k, hk, hs, hmin⟩ := skip_spec (s.drop (off + 1))
  rw [List.length_drop] at hk hmin
  have hr : resync (s.drop off) = s.drop (off + 1 + k) := by rw [resync, List.tail_drop, hs, List.drop_drop]
  have hm : off + 1 + k ≤ s.length := Nat.add_le_of_le_sub' hlt hk
  refine ⟨off + 1 + k, by omega, hm, by rw [hr]; exact offset_drop s (by omega) hm, hr, fun i hi hle hc => ?_⟩
  have := hmin (i - (off + 1)) (by omega) (by rw [List.drop_drop, Nat.add_sub_cancel' hi]; exact hc)
  omega

variable {α : Type} (S : Scanner α)

theorem extractAt_frames (fuel off : Nat) (buf : Bytes) :
    (extractAt S.tryFrame fuel off buf).map (·.2.1) = (extract S.tryFrame fuel buf).1 := by
  induction fuel generalizing off buf with
  | zero => rfl
  | succ fuel ih =>
    simp only [extractAt, extract, extractWith]
    cases S.tryFrame buf with
    | short => rfl
    | raised => rfl
    | invalid => exact ih _ _
    | ok f n => simp only [List.map_cons]; rw [ih]

theorem located_frames (s : Bytes) : (located S.tryFrame s).map (·.2.1) = (run S.tryFrame s).1 :=
  extractAt_frames S _ 0 s

/-- consecutive entries: the next frame starts at or after the end of the previous one -/
def Ordered : Nat → List (Nat × α × Nat) → Prop
  | _, [] => True
  | lo, e :: rest => lo ≤ e.1 ∧ Ordered (e.1 + e.2.2) rest

theorem ordered_mono {a b : Nat} {l : List (Nat × α × Nat)} (h : Ordered b l) (hab : a ≤ b) : Ordered a l := by
  cases l with
  | nil => trivial
  | cons e r => exact ⟨Nat.le_trans hab h.1, h.2⟩

theorem extractAt_sound (s : Bytes) (fuel off : Nat) (hoff : off ≤ s.length) :
    Ordered off (extractAt S.tryFrame fuel off (s.drop off)) ∧
    ∀ e ∈ extractAt S.tryFrame fuel off (s.drop off),
      e.1 + e.2.2 ≤ s.length ∧ S.tryFrame (s.drop e.1) = .ok e.2.1 e.2.2 := by
  induction fuel generalizing off with
  | zero => exact ⟨trivial, nofun⟩
  | succ fuel ih =>
    rw [extractAt]
    cases hT : S.tryFrame (s.drop off) with
    | short => exact ⟨trivial, nofun⟩
    | raised => exact ⟨trivial, nofun⟩
    | invalid =>
      have hl := invalid_len S hT
      rw [List.length_drop] at hl
      obtain ⟨m, hlt, hle, hk, hd, _⟩ := resync_drop s off (by omega)
      simp only []
      rw [hk, hd]
      obtain ⟨ho, hm⟩ := ih m hle
      exact ⟨ordered_mono ho (Nat.le_of_lt hlt), hm⟩
    | ok f n =>
      have hn := (S.ok_le _ _ _ hT).2
      rw [List.length_drop] at hn
      have hle : off + n ≤ s.length := Nat.add_le_of_le_sub' hoff hn
      simp only [List.drop_drop]
      obtain ⟨ho, hm⟩ := ih (off + n) hle
      refine ⟨⟨Nat.le_refl _, ho⟩, fun e he => ?_⟩
      rcases List.mem_cons.mp he with rfl | he
      · exact ⟨hle, hT⟩
      · exact hm e he

theorem located_sound (s : Bytes) :
    Ordered 0 (located S.tryFrame s) ∧
    ∀ e ∈ located S.tryFrame s, e.1 + e.2.2 ≤ s.length ∧ S.tryFrame (s.drop e.1) = .ok e.2.1 e.2.2 :=
  extractAt_sound S s (s.length + 1) 0 (Nat.zero_le _)

/-- a declared extent for the scanner's parser: how far the header in front of the buffer says its frame reaches -/
structure Extent {α : Type} (S : Scanner α) where
  ext : Bytes → Option Nat
  ext_of_short : ∀ b, S.tryFrame b = .short → 7 ≤ b.length → ∃ e, ext b = some e ∧ b.length < e
  ext_of_ok : ∀ b f n, S.tryFrame b = .ok f n → ∃ e, ext b = some e ∧ n ≤ e

variable (E : Extent S)

theorem startsSig_of_ok {b : Bytes} {f : α} {n : Nat} (h : S.tryFrame b = .ok f n) : startsSig b = true := by
  have hl := S.ok_le _ _ _ h
  cases hs : startsSig b with
  | true => rfl
  | false =>
    have := S.invalid_of_nosig b (by omega) hs
    rw [this] at h; cases h

/-- a frame the parser accepts at position `i` is found by the scan, provided no earlier position carries a valid
    header whose declared extent reaches over `i`.  Before `i` the scan cannot wait (the extent would reach over `i`),
    cannot accept beyond `i` (same), and a resynchronisation stops at `i` at the latest, because the buffer is
    canonical there. -/
theorem extractAt_complete (s : Bytes) (i n : Nat) (f : α) (hok : S.tryFrame (s.drop i) = .ok f n)
    (hfree : ∀ j, j < i → ∀ e, E.ext (s.drop j) = some e → j + e ≤ i) :
    ∀ fuel off, off ≤ i → s.length < off + fuel → (i, f, n) ∈ extractAt S.tryFrame fuel off (s.drop off) := by
  have hn := S.ok_le _ _ _ hok
  have hi : i + n ≤ s.length := by rw [List.length_drop] at hn; omega
  have hil : i ≤ s.length := Nat.le_trans (Nat.le_add_right i n) hi
  intro fuel
  induction fuel with
  | zero => intro off hoff h; exact absurd (Nat.le_trans hoff hil) (Nat.not_le_of_lt h)
  | succ fuel ih =>
    intro off hoff hfuel
    rw [extractAt]
    rcases Nat.lt_or_ge off i with hlt | hge
    · have hoffs : off < s.length := Nat.lt_of_lt_of_le hlt hil
      cases hT : S.tryFrame (s.drop off) with
      | short =>
        have h7 : 7 ≤ (s.drop off).length := by
          rw [List.length_drop]
          exact Nat.le_sub_of_add_le' (Nat.le_trans (Nat.add_le_add (Nat.le_of_lt hlt) hn.1) hi)
        obtain ⟨e, he, hshort⟩ := E.ext_of_short _ hT h7
        rw [List.length_drop] at hshort
        exact absurd (Nat.le_sub_of_add_le' (Nat.le_trans (hfree off hlt e he) hil)) (Nat.not_le.2 hshort)
      | raised => exact absurd hT (S.never_raises _)
      | invalid =>
        obtain ⟨m, hm, _, hk, hd, hmin⟩ := resync_drop s off hoffs
        simp only []
        rw [hk, hd]
        exact ih m (hmin i hlt hil (canon_of_startsSig (startsSig_of_ok S hok))) (by omega)
      | ok f' n' =>
        obtain ⟨e, he, hne⟩ := E.ext_of_ok _ _ _ hT
        have hle : off + n' ≤ i := Nat.le_trans (Nat.add_le_add_left hne off) (hfree off hlt e he)
        have := (S.ok_le _ _ _ hT).1
        simp only [List.drop_drop]
        exact List.mem_cons_of_mem _ (ih (off + n') hle (by omega))
    · obtain rfl : off = i := Nat.le_antisymm hoff hge
      rw [hok]; exact List.mem_cons_self

theorem located_complete (s : Bytes) (i n : Nat) (f : α) (hok : S.tryFrame (s.drop i) = .ok f n)
    (hfree : ∀ j, j < i → ∀ e, E.ext (s.drop j) = some e → j + e ≤ i) : (i, f, n) ∈ located S.tryFrame s := by
  have := extractAt_complete S E s i n f hok hfree (s.length + 1) 0 (Nat.zero_le i) (by omega)
  simpa [located] using this

end Zboss.Rx
