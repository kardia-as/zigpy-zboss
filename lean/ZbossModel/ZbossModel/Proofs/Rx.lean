import ZbossModel.Rx
import ZbossModel.Proofs.Scanner
import ZbossModel.Proofs.Frame
/-! The concrete `_extract_frame` model: `resyncPy = resync` (the code's find-based resynchronisation is the
    canonical-suffix skip); one equation for `tryFrame` (`tryFrame_eq`: header checks, declared extent, then a
    verdict on header and announced block alone); from it the laws that make it a `Scanner`. -/
namespace Zboss.Rx
open Gen

theorem drop_length_sub_cons {α} (x : α) (l : List α) (k : Nat) (hk : k ≤ l.length) :
    (x :: l).drop ((x :: l).length - k) = l.drop (l.length - k) := by
  rw [List.length_cons, Nat.succ_sub hk, List.drop_succ_cons]

theorem findSig_skip : ∀ (l : Bytes) (i : Nat),
    match findSig l i with
    | some k => ∃ j, k = i + j ∧ skip l = l.drop j
    | none => skip l = l.drop (l.length - if l.getLast? = some 0xDE then 1 else 0)
  | [], _ => rfl
  | [x], _ => by
    by_cases hx : x = 0xDE <;> simp [findSig, skip, canon, hx]
  | x :: y :: t, i => by
    have ih := findSig_skip (y :: t) (i + 1)
    rw [findSig]
    cases hc : (x == 0xDE && y == 0xAD) with
    | true => rw [if_pos rfl]; exact ⟨0, rfl, skip_of_canon (l := x :: y :: t) hc⟩
    | false =>
      rw [if_neg Bool.false_ne_true, skip_of_not_canon (t := y :: t) hc, List.getLast?_cons_cons]
      cases hk : findSig (y :: t) (i + 1) with
      | some k =>
        rw [hk] at ih
        obtain ⟨j, hj, hs⟩ := ih
        exact ⟨j + 1, hj.trans (Nat.succ_add_eq_add_succ i j), hs⟩
      | none =>
        rw [hk] at ih
        exact ih.trans (drop_length_sub_cons x (y :: t) _ (by split <;> simp)).symm

theorem resyncPy_eq (b : Bytes) : resyncPy b = resync b := by
  cases b with
  | nil => rfl
  | cons x t =>
    have h := findSig_skip t 1
    rw [resyncPy, resync, List.tail_cons]
    cases hk : findSig t 1 with
    | some k =>
      rw [hk] at h
      obtain ⟨j, rfl, hs⟩ := h
      rw [hs, Nat.add_comm]; rfl
    | none =>
      rw [hk] at h
      refine Eq.trans ?_ h.symm
      cases t with
      | nil => rfl
      | cons y t' => exact drop_length_sub_cons x (y :: t') _ (by split <;> simp)

theorem ofBytes_append (a b : Bytes) (h : 7 ≤ a.length) : LL.ofBytes (a ++ b) = LL.ofBytes a := by
  rw [LL.ofBytes, LL.ofBytes, List.take_append_of_le_length h]

theorem header_view (b : Bytes) (h7 : 7 ≤ b.length) :
    b.take 2 = toLE 2 (LL.sig (LL.ofBytes b)) ∧ fromLE (slice b 2 4) = LL.size (LL.ofBytes b) ∧
    (b.getD 4 0).toNat = LL.ftype (LL.ofBytes b) ∧ (b.getD 6 0).toNat = LL.crc (LL.ofBytes b) ∧
    (Crc.crc8B (slice b 2 6)).toNat = LL.crcOf (LL.ofBytes b) := by
  -- the first seven bytes are `LL.bytes` of the decoded header; read every field off that image
  rw [← slice_take b 2 4 7 (by decide), ← slice_take b 2 6 7 (by decide), ← getD_take b 4 7 (by decide),
    ← getD_take b 6 7 (by decide), show b.take 2 = (b.take 7).take 2 by rw [List.take_take]; rfl,
    ← LL.bytes_ofBytes b h7]
  generalize LL.ofBytes b = ll
  rw [LL.crcOf, LL.bytes_eq]
  have u8 (n : Nat) (h : n < 2 ^ 8) : (UInt8.ofNat n).toNat = n := by rw [UInt8.toNat_ofNat', Nat.mod_eq_of_lt h]
  exact ⟨rfl, fromLE_toLE 2 _ (LLHeader.sizeField.toNat_get_lt ll), u8 _ (LLHeader.typeField.toNat_get_lt ll),
    u8 _ (LLHeader.crc8Field.toNat_get_lt ll), rfl⟩

/-- the header checks of `_extract_frame`: marker, frame type, header CRC8, length ≥ 5 -/
def headerOk (b : Bytes) : Bool :=
  !(decide (b.length < 7)) && decide (b.take 2 = toLE 2 Gen.signature) && decide ((b.getD 4 0).toNat = Gen.typeHL) &&
  decide ((Crc.crc8B (slice b 2 6)).toNat = (b.getD 6 0).toNat) && decide (5 ≤ fromLE (slice b 2 4))

/-- bytes from the marker to the end of the declared length: length field + 2 -/
def extent (b : Bytes) : Option Nat := if headerOk b then some (fromLE (slice b 2 4) + 2) else none

theorem headerOk_iff (b : Bytes) : headerOk b = true ↔
    (¬ b.length < 7 ∧ b.take 2 = toLE 2 Gen.signature ∧ (b.getD 4 0).toNat = Gen.typeHL ∧
      (Crc.crc8B (slice b 2 6)).toNat = (b.getD 6 0).toNat ∧ 5 ≤ fromLE (slice b 2 4)) := by
  simp only [headerOk, Bool.and_eq_true, Bool.not_eq_true', decide_eq_false_iff_not, decide_eq_true_eq, and_assoc]

/-- a header that `_extract_frame` lets through -/
structure Valid (ll : LL) : Prop where
  sig : LL.sig ll = Gen.signature
  ftype : LL.ftype ll = Gen.typeHL
  crc : LL.crcOf ll = LL.crc ll
  size : 5 ≤ LL.size ll

theorem headerOk_valid (b : Bytes) (h7 : 7 ≤ b.length) : headerOk b = true ↔ Valid (LL.ofBytes b) := by
  obtain ⟨v1, v2, v3, v4, v5⟩ := header_view b h7
  rw [headerOk_iff, v1, v2, v3, v4, v5]
  constructor
  · rintro ⟨-, c1, c2, c3, c4⟩
    have hs : LL.sig (LL.ofBytes b) < 256 ^ 2 := LLHeader.signatureField.toNat_get_lt _
    have := congrArg fromLE c1
    rw [fromLE_toLE 2 _ hs, fromLE_toLE 2 _ (by decide)] at this
    exact ⟨this, c2, c3, c4⟩
  · rintro ⟨c1, c2, c3, c4⟩
    exact ⟨by omega, by rw [c1], c2, c3, c4⟩

theorem headerOk_append (a c : Bytes) (h7 : 7 ≤ a.length) : headerOk (a ++ c) = headerOk a := by
  have h7' : 7 ≤ (a ++ c).length := by rw [List.length_append]; exact Nat.le_add_right_of_le h7
  rw [Bool.eq_iff_iff, headerOk_valid _ h7', headerOk_valid a h7, ofBytes_append a c h7]

theorem extent_append (a c : Bytes) (h7 : 7 ≤ a.length) : extent (a ++ c) = extent a := by
  have h7' : 7 ≤ (a ++ c).length := by rw [List.length_append]; exact Nat.le_add_right_of_le h7
  rw [extent, extent, headerOk_append a c h7, (header_view _ h7').2.1, (header_view a h7).2.1, ofBytes_append a c h7]

theorem extent_eq {b : Bytes} {e : Nat} (h : extent b = some e) :
    headerOk b = true ∧ e = fromLE (slice b 2 4) + 2 ∧ 7 ≤ e ∧ 7 ≤ b.length := by
  cases hh : headerOk b with
  | false => rw [extent, hh] at h; cases h
  | true =>
    obtain ⟨h7, _, _, _, h5⟩ := (headerOk_iff b).mp hh
    rw [extent, if_pos hh] at h
    injection h with h
    exact ⟨rfl, h.symm, by omega, by omega⟩

theorem extent_le (b : Bytes) (e : Nat) (h : extent b = some e) : e ≤ 65537 := by
  obtain ⟨_, rfl, _, _⟩ := extent_eq h
  have := fromLE_lt (slice b 2 4)
  have hl : (slice b 2 4).length ≤ 2 := by simp [slice]; omega
  have : 256 ^ (slice b 2 4).length ≤ 256 ^ 2 := Nat.pow_le_pow_right (by omega) hl
  omega

theorem block_length {b : Bytes} {e : Nat} (h7 : 7 ≤ e) (hle : e ≤ b.length) :
    ((b.drop 7).take (e - 7)).length + 7 = e := by
  rw [List.length_take, List.length_drop, Nat.min_eq_left (Nat.sub_le_sub_right hle 7), Nat.sub_add_cancel h7]

theorem hlpacket_deserialize (blk : Bytes) :
    HLPacket.deserialize blk =
      if blk.length < 2 then .error .valueError
      else if fromLE (blk.take 2) ≠ Crc.crc16B (blk.drop 2) then .error .invalidFrame
      else if blk.length < 6 then .error .valueError
      else .ok ⟨some (HLH.ofBytes (blk.drop 2)), blk.drop 6⟩ := by
  have : (blk.drop 2).length < 4 ↔ blk.length < 6 := by simp only [List.length_drop]; omega
  simp only [HLPacket.deserialize, this, List.drop_drop]

/-- behind the header checks of `_extract_frame` the library decoder's own marker and header-checksum tests pass, and
    its Python slices are the announced block and what follows it, whether or not the block has arrived in full -/
theorem deserialize_eq {b : Bytes} {e : Nat} (he : extent b = some e) :
    Frame.deserialize b =
      if Frame.hasFlag (LL.flags (LL.ofBytes b)) Gen.flagisACK then .ok (⟨LL.ofBytes b, none⟩, b.drop 7)
      else if Frame.hasFlag (LL.flags (LL.ofBytes b)) Gen.flagFirstFrag then
        (HLPacket.deserialize ((b.drop 7).take (e - 7))).map fun p => (⟨LL.ofBytes b, some p⟩, b.drop e)
      else .ok (⟨LL.ofBytes b, some ⟨none, (b.drop 7).take (e - 7)⟩⟩, b.drop e) := by
  obtain ⟨hh, rfl, -, h7⟩ := extent_eq he
  have hv := (headerOk_valid b h7).mp hh
  have hsz := (header_view b h7).2.1
  -- the decoder's slice bound `size - 5` is the block length `e - 7`
  have hk : ((LL.size (LL.ofBytes b) : Int) - 5) = ((fromLE (slice b 2 4) + 2 - 7 : Nat) : Int) ∧
      7 + (fromLE (slice b 2 4) + 2 - 7) = fromLE (slice b 2 4) + 2 := by have := hv.size; omega
  have := Frame.deserialize_bytes (LL.ofBytes b) (b.drop 7) hv.sig hv.crc
  rwa [LL.bytes_ofBytes b h7, List.take_append_drop, hk.1, Frame.pyTake_nat, Frame.pyDrop_nat, List.drop_drop,
    hk.2] at this

theorem hlpacket_no_keyError (d : Bytes) : HLPacket.deserialize d ≠ .error .keyError := by
  rw [hlpacket_deserialize]
  exact ite_ne nofun (ite_ne nofun (ite_ne nofun nofun))

/-- every failure of the library decoder is a `ValueError` (`InvalidFrame` included) -/
theorem deserialize_no_keyError (a : Bytes) : Frame.deserialize a ≠ .error .keyError := by
  rw [Frame.deserialize]
  refine ite_ne nofun (ite_ne nofun (ite_ne nofun (ite_ne nofun (ite_ne ?_ nofun))))
  cases hp : HLPacket.deserialize (Frame.pyTake (a.drop 7) ((LL.size (LL.ofBytes a) : Int) - 5)) with
  | ok p => nofun
  | error e => exact fun h => hlpacket_no_keyError _ (hp.trans (by injection h with h; rw [h]))

/-- verdict of `_extract_frame` once the header `ll` has passed its checks and the block `blk` of `size - 5` bytes
    it announces is there: an ACK is accepted on its header alone; a data frame needs a body checksum in front of its
    body, a first fragment also the four bytes of a command header -/
def accept (ll : LL) (blk : Bytes) : Try Frame :=
  if Frame.hasFlag (LL.flags ll) Gen.flagisACK then .ok ⟨ll, none⟩ 7
  else if 2 ≤ blk.length ∧ fromLE (blk.take 2) = Crc.crc16B (blk.drop 2) then
    if Frame.hasFlag (LL.flags ll) Gen.flagFirstFrag then
      if blk.length < 6 then .invalid else .ok ⟨ll, some ⟨some (HLH.ofBytes (blk.drop 2)), blk.drop 6⟩⟩ (blk.length + 7)
    else .ok ⟨ll, some ⟨none, blk.drop 2⟩⟩ (blk.length + 7)
  else .invalid

theorem tryFrame_eq (b : Bytes) :
    tryFrame b = match extent b with
      | none => if b.length < 7 then .short else .invalid
      | some e => if b.length < e then .short else accept (LL.ofBytes b) ((b.drop 7).take (e - 7)) := by
  cases he : extent b with
  | none =>
    have hh : ¬ headerOk b = true := fun h => by rw [extent, if_pos h] at he; cases he
    simp only []
    by_cases h7 : b.length < 7
    · rw [tryFrame, if_pos h7, if_pos h7]
    rw [tryFrame, if_neg h7, if_neg h7]
    -- a failing check rejects; if none fails the header is valid
    refine ite_eq_left_iff.mpr fun c1 => ite_eq_left_iff.mpr fun c2 => ite_eq_left_iff.mpr fun c3 => ?_
    simp only []
    refine ite_eq_left_iff.mpr fun c4 => ?_
    exact absurd ((headerOk_iff b).mpr
      ⟨h7, Decidable.of_not_not c1, Decidable.of_not_not c2, Decidable.of_not_not c3, Nat.not_lt.mp c4⟩) hh
  | some e =>
    obtain ⟨hh, hL, h7e, -⟩ := extent_eq he
    obtain ⟨h7, c1, c2, c3, c4⟩ := (headerOk_iff b).mp hh
    simp only []
    rw [tryFrame, if_neg h7, if_neg (not_not_intro c1), if_neg (not_not_intro c2), if_neg (not_not_intro c3)]
    simp only [if_neg (Nat.not_lt.mpr c4), ← hL]
    by_cases c5 : b.length < e
    · rw [if_pos c5, if_pos c5]
    rw [if_neg c5, if_neg c5, deserialize_eq he]
    -- consumed lengths: 7 for an ACK, otherwise header + block = the extent
    have hbl := block_length h7e (Nat.not_lt.mp c5)
    have hdl : b.length - (b.drop e).length = e := by rw [List.length_drop, Nat.sub_sub_self (Nat.not_lt.mp c5)]
    have h7l : b.length - (b.drop 7).length = 7 := by rw [List.length_drop, Nat.sub_sub_self (Nat.not_lt.mp h7)]
    generalize LL.ofBytes b = ll
    generalize (b.drop 7).take (e - 7) = blk at hbl
    unfold accept
    by_cases ca : Frame.hasFlag (LL.flags ll) Gen.flagisACK = true
    · simp only [ca, if_true, Frame.hasFlag_or, Bool.true_or, h7l]
    by_cases cf : Frame.hasFlag (LL.flags ll) Gen.flagFirstFrag = true
    · simp only [ca, cf, if_true, Bool.false_eq_true, if_false, hlpacket_deserialize]
      by_cases d1 : blk.length < 2
      · simp only [d1, if_true, Nat.not_le.mpr d1, false_and, if_false, Except.map]
      by_cases d2 : fromLE (blk.take 2) = Crc.crc16B (blk.drop 2)
      · by_cases d3 : blk.length < 6
        · simp only [d1, d2, d3, ne_eq, not_true_eq_false, if_true, if_false, Nat.not_lt.mp d1, and_self, Except.map]
        · simp only [d1, d2, d3, ne_eq, not_true_eq_false, if_false, Nat.not_lt.mp d1, and_self, if_true, Except.map,
            Frame.hasFlag_or, cf, Bool.or_true, hdl, hbl]
      · simp only [d1, d2, ne_eq, not_false_eq_true, if_true, if_false, and_false, Except.map]
    · -- a continuation fragment: `_extract_frame` itself checks and strips the body checksum
      simp only [ca, cf, Bool.false_eq_true, if_false, Frame.hasFlag_or, Bool.or_self]
      by_cases d1 : blk.length < 2
      · simp only [d1, if_true, Nat.not_le.mpr d1, false_and, if_false]
      by_cases d2 : fromLE (blk.take 2) = Crc.crc16B (blk.drop 2)
      · simp only [d1, d2, ne_eq, not_true_eq_false, if_false, Nat.not_lt.mp d1, and_self, if_true, hdl, hbl]
      · simp only [d1, d2, ne_eq, not_false_eq_true, if_true, if_false, and_false]

theorem accept_verdict (ll : LL) (blk : Bytes) : accept ll blk ≠ .short ∧ accept ll blk ≠ .raised := by
  unfold accept
  exact ⟨ite_ne nofun (ite_ne (ite_ne (ite_ne nofun nofun) nofun) nofun),
    ite_ne nofun (ite_ne (ite_ne (ite_ne nofun nofun) nofun) nofun)⟩

theorem accept_ok {ll : LL} {blk : Bytes} {f : Frame} {n : Nat} (h : accept ll blk = .ok f n) :
    f.ll = ll ∧ f.hl.isSome = !isAck f ∧ (if isAck f then n = 7
      else n = blk.length + 7 ∧ 2 ≤ blk.length ∧ fromLE (blk.take 2) = Crc.crc16B (blk.drop 2)) := by
  unfold accept at h
  cases ca : Frame.hasFlag (LL.flags ll) Gen.flagisACK with
  | true =>
    rw [ca, if_pos rfl] at h
    cases h
    rw [show isAck ⟨ll, none⟩ = true from ca, if_pos rfl]
    exact ⟨rfl, rfl, rfl⟩
  | false =>
    rw [ca, if_neg Bool.false_ne_true] at h
    by_cases hc : 2 ≤ blk.length ∧ fromLE (blk.take 2) = Crc.crc16B (blk.drop 2)
    · rw [if_pos hc] at h
      obtain ⟨p, rfl, rfl⟩ : ∃ p, f = ⟨ll, some p⟩ ∧ n = blk.length + 7 := by
        split at h
        · split at h
          · cases h
          · cases h; exact ⟨_, rfl, rfl⟩
        · cases h; exact ⟨_, rfl, rfl⟩
      rw [show isAck ⟨ll, some p⟩ = false from ca, if_neg Bool.false_ne_true]
      exact ⟨rfl, rfl, rfl, hc⟩
    · rw [if_neg hc] at h; cases h

theorem tryFrame_short_iff (b : Bytes) :
    tryFrame b = .short ↔ b.length < 7 ∨ ∃ e, extent b = some e ∧ b.length < e := by
  rw [tryFrame_eq]
  cases he : extent b with
  | none => by_cases h : b.length < 7 <;> simp [h]
  | some e =>
    have h7 := (extent_eq he).2.2
    have := (accept_verdict (LL.ofBytes b) ((b.drop 7).take (e - 7))).1
    by_cases h : b.length < e <;> simp [h, this]
    omega

theorem tryFrame_ok {b : Bytes} {f : Frame} {n : Nat} (h : tryFrame b = .ok f n) :
    ∃ e, extent b = some e ∧ e ≤ b.length ∧ ((b.drop 7).take (e - 7)).length + 7 = e ∧
      accept (LL.ofBytes b) ((b.drop 7).take (e - 7)) = .ok f n := by
  rw [tryFrame_eq] at h
  cases he : extent b with
  | none => rw [he] at h; simp only [] at h; split at h <;> cases h
  | some e =>
    rw [he] at h; simp only [] at h
    by_cases hlt : b.length < e
    · rw [if_pos hlt] at h; cases h
    · rw [if_neg hlt] at h
      exact ⟨e, rfl, Nat.not_lt.mp hlt, block_length (extent_eq he).2.2.1 (Nat.not_lt.mp hlt), h⟩

theorem tryFrame_never_raises (b : Bytes) : tryFrame b ≠ .raised := by
  rw [tryFrame_eq]
  cases extent b with
  | none => exact ite_ne nofun nofun
  | some e => exact ite_ne nofun (accept_verdict _ _).2

theorem extent_ok (b : Bytes) (f : Frame) (n : Nat) (h : tryFrame b = .ok f n) :
    ∃ e, extent b = some e ∧ n ≤ e ∧ e ≤ b.length ∧ 7 ≤ n := by
  obtain ⟨e, he, hle, hb, ha⟩ := tryFrame_ok h
  have hn := (accept_ok ha).2.2
  have h7e := (extent_eq he).2.2.1
  -- an ACK takes the seven header bytes, a data frame its whole extent
  cases hk : isAck f with
  | true => rw [hk, if_pos rfl] at hn; exact ⟨e, he, hn ▸ h7e, hle, Nat.le_of_eq hn.symm⟩
  | false => rw [hk, if_neg Bool.false_ne_true, hb] at hn; exact ⟨e, he, Nat.le_of_eq hn.1, hle, hn.1 ▸ h7e⟩

theorem tryFrame_ok_le (a : Bytes) (f : Frame) (n : Nat) (h : tryFrame a = .ok f n) : 7 ≤ n ∧ n ≤ a.length := by
  obtain ⟨e, _, hn, hle, h7⟩ := extent_ok a f n h
  exact ⟨h7, Nat.le_trans hn hle⟩

/-- header checks, extent and announced block are read off the bytes that were already there -/
theorem tryFrame_append (a b : Bytes) (hns : tryFrame a ≠ .short) : tryFrame (a ++ b) = tryFrame a := by
  have hns' := (not_congr (tryFrame_short_iff a)).mp hns
  have h7 : 7 ≤ a.length := Nat.not_lt.mp fun h => hns' (.inl h)
  rw [tryFrame_eq (a ++ b), extent_append a b h7, ofBytes_append a b h7, tryFrame_eq a, List.length_append]
  cases he : extent a with
  | none =>
    simp only []
    rw [if_neg (Nat.not_lt.mpr h7), if_neg (Nat.not_lt.mpr (Nat.le_add_right_of_le h7))]
  | some e =>
    have hle : e ≤ a.length := Nat.not_lt.mp fun h => hns' (.inr ⟨e, he, h⟩)
    simp only []
    rw [if_neg (Nat.not_lt.mpr hle), if_neg (Nat.not_lt.mpr (Nat.le_add_right_of_le hle)),
      List.drop_append_of_le_length h7,
      List.take_append_of_le_length (by rw [List.length_drop]; exact Nat.sub_le_sub_right hle 7)]

theorem startsSig_of_take {b : Bytes} (h : b.take 2 = [0xDE, 0xAD]) : startsSig b = true := by
  match b, h with
  | x :: y :: t, h =>
    injection h with hx h; injection h with hy _
    rw [hx, hy]; rfl

theorem startsSig_of_extent {b : Bytes} {e : Nat} (h : extent b = some e) : startsSig b = true :=
  startsSig_of_take ((headerOk_iff b).mp (extent_eq h).1).2.1

theorem extent_none_of_head (x : UInt8) (t : Bytes) (hx : x ≠ 0xDE) : extent (x :: t) = none := by
  cases he : extent (x :: t) with
  | none => rfl
  | some e =>
    have := startsSig_of_extent he
    cases t <;> simp [startsSig, hx] at this

theorem tryFrame_invalid_of_nosig (a : Bytes) (h7 : 7 ≤ a.length) (hs : startsSig a = false) : tryFrame a = .invalid := by
  rw [tryFrame_eq]
  cases he : extent a with
  | none => exact if_neg (Nat.not_lt.2 h7)
  | some e => rw [startsSig_of_extent he] at hs; cases hs

theorem tryFrame_short_of_lt (a : Bytes) (h : a.length < 7) : tryFrame a = .short := by
  rw [tryFrame, if_pos h]

/-- reducible, so that `zbossScanner.tryFrame` is `tryFrame` to `rw` with the lemmas of `Proofs/Scanner.lean` -/
@[reducible] def zbossScanner : Scanner Frame where
  tryFrame := tryFrame
  short_of_lt := tryFrame_short_of_lt
  invalid_of_nosig := tryFrame_invalid_of_nosig
  ok_le := tryFrame_ok_le
  ok_ext := fun a b f n h => by rw [tryFrame_append a b (by rw [h]; nofun), h]
  invalid_ext := fun a b h => by rw [tryFrame_append a b (by rw [h]; nofun), h]
  never_raises := tryFrame_never_raises

end Zboss.Rx
