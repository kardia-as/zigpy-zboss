import ZbossModel.Proofs.HostEvents
/-! The lock discipline (`Inv2`) and the frame of task steps (`Frame`); "no residue" is stated here and read off the
    equation for the listener table (`Proofs/HostTable.lean`).

The frame is a property that no change of a queue, a hold flag or the ready list can break (`LockBlind`), so the lock
operations cost it a line each.  The lock discipline is not of that kind; it is carried through the task step of
request `i` with the phase obligations of `i` suspended (`Inv2X`), and holds again once the step has given `i` a phase
that fits the locks it then holds (`inv2_close`, `inv2_finish`). -/
namespace Zboss.Host

/-- every registered one-shot listener belongs to a request that is still running -/
def NoResidue (st : St) : Prop :=
  ∀ l ∈ st.listeners, ∃ r ∈ st.reqs, r.id = l.1 ∧ r.phase ≠ .done

def Alive (f : Req → Req) : Prop := ∀ r, (f r).id = r.id ∧ (r.phase ≠ .done → (f r).phase ≠ .done)

theorem alive_ite (c : Req → Bool) (f : Req → Req) (hf : Alive f) : Alive (fun r => if c r then f r else r) := by
  intro r; by_cases h : c r = true
  · simp only [h, if_true]; exact hf r
  · simp only [h]; exact ⟨rfl, id⟩

/-! ## lock discipline -/

def inTransmit : Phase → Bool
  | .sendfrag | .waitT | .waitAck | .acked => true
  | _ => false

def ackPhase : Phase → Bool
  | .waitAck | .acked => true
  | _ => false

theorem inTransmit_of_ackPhase {p : Phase} (h : ackPhase p = true) : inTransmit p = true := by
  cases p <;> first | rfl | cases h

def afterB : Phase → Bool
  | .waitM | .sendfrag | .waitT | .waitAck | .acked | .waitRsp => true
  | _ => false

def HoldHead (st : St) (r : Req) : Prop := ∀ l, holds r l = true → (queue st l).head? = some r.id

def PhaseHold (r : Req) : Prop :=
  (inTransmit r.phase = true → r.holdM = true) ∧ (ackPhase r.phase = true → r.holdT = true) ∧
  (r.blocking = true → afterB r.phase = true → r.holdB = true)

/-- a hold flag implies being at the head of that lock's queue; the phase determines which locks a request must hold -/
def Inv2 (st : St) : Prop :=
  (st.reqs.map (·.id)).Nodup ∧ ∀ r ∈ st.reqs, HoldHead st r ∧ PhaseHold r

/-- the invariant with the phase obligations of request `i` suspended (inside its own task step) -/
def Inv2X (st : St) (i : Nat) : Prop :=
  (st.reqs.map (·.id)).Nodup ∧ ∀ r ∈ st.reqs, HoldHead st r ∧ (r.id ≠ i → PhaseHold r)

theorem x_of_inv2 (st : St) (i : Nat) (h : Inv2 st) : Inv2X st i :=
  ⟨h.1, fun r hr => ⟨(h.2 r hr).1, fun _ => (h.2 r hr).2⟩⟩

theorem inv2_of_x (st : St) (i : Nat) (h : Inv2X st i) (hi : ∀ x, getReq st i = some x → PhaseHold x) : Inv2 st :=
  ⟨h.1, fun r hr => ⟨(h.2 r hr).1, by
    by_cases hid : r.id = i
    · exact hi r (hid ▸ getReq_of_mem st h.1 r hr)
    · exact (h.2 r hr).2 hid⟩⟩

theorem x_updReq (st : St) (i : Nat) (f : Req → Req) (h : Inv2X st i) (hid : ∀ r, (f r).id = r.id)
    (hh : ∀ r ∈ st.reqs, r.id = i → HoldHead st (f r)) : Inv2X (updReq st i f) i := by
  refine ⟨by rw [ids_updReq st i f hid]; exact h.1, fun r' hr' => ?_⟩
  obtain ⟨r, hr, rfl⟩ := mem_updReq st i f r' hr'
  split
  · next hi =>
    have hi : r.id = i := beq_iff_eq.mp hi
    exact ⟨hh r hr hi, fun hne => absurd ((hid r).trans hi) hne⟩
  · exact h.2 r hr

theorem x_setQueue (st : St) (l : Lock) (q : List Nat) (i : Nat) (h : Inv2X st i)
    (hq : ∀ r ∈ st.reqs, holds r l = true → q.head? = some r.id) : Inv2X (setQueue st l q) i := by
  refine ⟨by rw [reqs_setQueue]; exact h.1, fun r hr => ?_⟩
  rw [reqs_setQueue] at hr
  refine ⟨fun l' hl' => ?_, (h.2 r hr).2⟩
  rw [queue_setQueue]
  split
  · next hll => subst hll; exact hq r hr hl'
  · exact (h.2 r hr).1 l' hl'

theorem x_setHold (st : St) (i : Nat) (l : Lock) (b : Bool) (h : Inv2X st i) (hb : b = true → (queue st l).head? = some i) :
    Inv2X (updReq st i (setHold · l b)) i := by
  refine x_updReq st i _ h (id_setHold · l b) fun r hr hi l' hl' => ?_
  rw [holds_setHold] at hl'
  rw [id_setHold]
  split at hl'
  · next hll => subst hll; rw [hi]; exact hb hl'
  · exact (h.2 r hr).1 l' hl'

theorem x_emit (st : St) (o : Out) (i : Nat) (h : Inv2X st i) : Inv2X (emit st o) i := h

theorem x_acquire (st : St) (l : Lock) (i : Nat) (h : Inv2X st i) : Inv2X (acquire st l i).1 i := by
  obtain ⟨q, hq, he⟩ := acquire_eq st l i
  -- a waiter joining the queue does not change its head
  have hsq : Inv2X (setQueue st l q) i :=
    x_setQueue st l q i h fun r hr hl => hq ▸ head_ite_append _ _ _ _ ((h.2 r hr).1 l hl)
  rw [he]
  split
  · next hc => exact x_setHold _ i l true hsq fun _ => by rw [queue_setQueue, if_pos rfl]; exact hc
  · exact hsq

theorem x_release (st : St) (l : Lock) (i : Nat) (h : Inv2X st i) (hhead : (queue st l).head? = some i) :
    Inv2X (release st l i) i := by
  rw [release_eq, updReq_setQueue]
  -- once `i`, the head, has given up its flag nobody holds `l`, and its queue may change freely
  refine x_setQueue _ l _ i (x_setHold _ i l false h nofun) fun r' hr' hl' => ?_
  obtain ⟨r, hr, rfl⟩ := mem_updReq _ i _ r' hr'
  split at hl'
  · rw [holds_setHold, if_pos rfl] at hl'; cases hl'
  · next hi =>
    have := (h.2 r hr).1 l hl'
    rw [hhead] at this
    exact absurd (by simpa using this.symm) hi

theorem x_unwindLock (st : St) (l : Lock) (i : Nat) (h : Inv2X st i) : Inv2X (unwindLock st l i) i := by
  refine unwindLock_cases (P := (Inv2X · i)) st l i h (x_release st l i h) fun r hg hc => ?_
  -- `i` is not the holder: it leaves the queue, and whoever holds the lock stays at the head
  refine x_setQueue _ l ((queue st l).filter (· != i)) i h fun r' hr' hl' => ?_
  have hd := (h.2 r' hr').1 l hl'
  refine head_filter_ne _ _ _ hd fun hid => hc ?_
  have : r' = r := Option.some.inj ((getReq_of_mem st h.1 r' hr').symm.trans (hid ▸ hg))
  exact ⟨hid ▸ hd, this ▸ hl'⟩

/-- `finish` closes the suspended obligations: a finished request has none -/
theorem inv2_finish (st : St) (i : Nat) (o : Outcome) (h : Inv2X st i) : Inv2 (finish st i o) := by
  have hx : Inv2X (finish st i o) i :=
    x_updReq st i (fun r => { r with phase := .done }) h (fun _ => rfl) fun r hr _ => (h.2 r hr).1
  refine inv2_of_x _ i hx fun x hg => ?_
  have hm : getReq (finish st i o) i = (getReq st i).map _ := getReq_updReq st i _ fun _ => rfl
  rw [hm] at hg
  obtain ⟨r, _, rfl⟩ := Option.map_eq_some_iff.mp hg
  exact ⟨nofun, nofun, fun _ => nofun⟩

theorem inv2_unwind (st : St) (i : Nat) (o : Outcome) (h : Inv2 st) : Inv2 (unwind st i o) :=
  inv2_finish _ _ _ (x_unwindLock _ _ _ (x_unwindLock _ _ _ (x_unwindLock _ _ _ (x_of_inv2 st i h))))

/-- an update of the record of `i` that satisfies `PhaseHold` closes the suspended obligations; the defaults of `hid`
    and `hh`: the updates of a task step keep id and hold flags by `rfl` -/
theorem inv2_close (st : St) (i : Nat) (f : Req → Req) (r : Req) (h : Inv2X st i) (hg : getReq st i = some r)
    (hp : PhaseHold (f r)) (hid : ∀ x, (f x).id = x.id := by exact fun _ => rfl)
    (hh : ∀ x, HoldHead st x → HoldHead st (f x) := by exact fun _ hh => hh) : Inv2 (updReq st i f) := by
  refine inv2_of_x _ i (x_updReq st i f h hid fun x hx _ => hh x (h.2 x hx).1) fun x hx => ?_
  rw [getReq_updReq st i f hid, hg] at hx
  cases hx
  exact hp

theorem inv2_map (st st' : St) (g : Req → Req) (h : Inv2 st) (hr : st'.reqs = st.reqs.map g)
    (hb : st'.bq = st.bq) (hm : st'.mq = st.mq) (ht : st'.tq = st.tq)
    (hid : ∀ r, (g r).id = r.id) (hh : ∀ r l, holds (g r) l = holds r l) (hp : ∀ r, PhaseHold r → PhaseHold (g r)) :
    Inv2 st' := by
  have hq : ∀ l, queue st' l = queue st l := fun l => by cases l <;> assumption
  refine ⟨?_, fun r' hr' => ?_⟩
  · have : st'.reqs.map (·.id) = st.reqs.map (·.id) := by
      rw [hr, List.map_map]; exact List.map_congr_left fun r _ => hid r
    rw [this]; exact h.1
  · rw [hr] at hr'
    obtain ⟨r, hrm, rfl⟩ := List.mem_map.mp hr'
    exact ⟨fun l hl => by rw [hq l, hid r]; exact (h.2 r hrm).1 l (hh r l ▸ hl), hp r (h.2 r hrm).2⟩

theorem Inv2.same {st st' : St} (h : Inv2 st) (hr : st'.reqs = st.reqs := by rfl) (hb : st'.bq = st.bq := by rfl)
    (hm : st'.mq = st.mq := by rfl) (ht : st'.tq = st.tq := by rfl) : Inv2 st' :=
  inv2_map st st' id h (by rw [hr, List.map_id]) hb hm ht (fun _ => rfl) (fun _ _ => rfl) (fun _ hp => hp)

theorem inv2_micro {st st' : St} {i : Nat} {r : Req} {c : Bool} (hg : getReq st i = some r) (hm : Micro st i r st' c)
    (h : Inv2 st) : Inv2 st' := by
  obtain ⟨hrm, hrid⟩ := getReq_mem st i r hg
  obtain ⟨hHH, hM, hT, hB⟩ := h.2 r hrm
  have hx := x_of_inv2 st i h
  have hacq : ∀ l, (acquire st l i).2 = true → getReq (acquire st l i).1 i = some (setHold r l true) := fun l hok => by
    rw [getReq_acquire st l i r hg, hok]; rfl
  cases hm with
  | idle => exact h
  | skipB hp hb => exact inv2_close st i _ r hx hg ⟨nofun, nofun, by simp [hb]⟩
  | toWaitT hp =>
    rw [hp] at hM hB
    exact inv2_close st i _ r hx hg ⟨fun _ => hM rfl, nofun, fun hbl _ => hB hbl rfl⟩
  | blocked l hp hb hf =>
    refine inv2_of_x _ i (x_acquire st l i hx) fun x hx' => ?_
    rw [getReq_acquire st l i r hg, hf] at hx'
    cases hx'
    exact ⟨hM, hT, hB⟩
  | locked l hl hp hb hok =>
    refine inv2_close _ i _ _ (x_acquire st l i hx) (hacq l hok) ?_
    cases l with
    | B => exact ⟨nofun, nofun, fun _ _ => rfl⟩
    | M =>
      rw [hp] at hB
      exact ⟨fun _ => rfl, nofun, fun hbl _ => hB hbl rfl⟩
    | T => exact absurd rfl hl
  | write hp hok ht =>
    rw [hp] at hM hB
    exact inv2_close _ i _ _ (x_emit _ _ i (x_acquire st .T i hx)) ((getReq_emit _ _ i).trans (hacq .T hok))
      ⟨fun _ => hM rfl, fun _ => rfl, fun hbl _ => hB hbl rfl⟩
  | skipWrite hp hok ht =>
    rw [hp] at hM hB
    exact inv2_close _ i _ _ (x_acquire st .T i hx) (hacq .T hok)
      ⟨fun _ => hM rfl, fun _ => rfl, fun hbl _ => hB hbl rfl⟩
  | refused | cancelled => exact inv2_unwind _ _ _ h
  | nextFrag hp hlt =>
    rw [hp] at hM hT hB
    have hx1 := x_release st .T i hx (by rw [← hrid]; exact hHH .T (hT rfl))
    exact inv2_close _ i _ _ hx1 (getReq_release st .T i r hg)
      ⟨fun _ => hM rfl, nofun, fun hbl _ => hB hbl rfl⟩
  | lastFrag hp hlt =>
    rw [hp] at hM hT hB
    have hx1 := x_release st .T i hx (by rw [← hrid]; exact hHH .T (hT rfl))
    have hx2 := x_release _ .M i hx1 (by rw [queue_release_other st .T .M i (by decide), ← hrid]; exact hHH .M (hM rfl))
    exact inv2_close _ i _ _ hx2 (getReq_release _ .M i _ (getReq_release st .T i r hg))
      ⟨nofun, nofun, fun hbl _ => hB hbl rfl⟩
  | answered hp hgot =>
    rw [hp] at hB
    split
    · next hbl => exact inv2_finish _ _ _ (x_release st .B i hx (by rw [← hrid]; exact hHH .B (hB hbl rfl)))
    · exact inv2_finish _ _ _ hx

theorem inv2_runReq1 (st : St) (i : Nat) (h : Inv2 st) : Inv2 (runReq 1 st i) :=
  runReq1_elim st i (fun _ => h) fun _ hg hm => inv2_micro hg hm h

theorem inv2_runReq (fuel : Nat) (st : St) (i : Nat) (h : Inv2 st) : Inv2 (runReq fuel st i) :=
  runReq_ind Inv2 i (fun s hs => inv2_runReq1 s i hs) fuel st h

/-- every lock held in the acknowledgement wait is held after it -/
theorem Passive.phaseHold {r r' : Req} (hp : Passive r r') (h : PhaseHold r) : PhaseHold r' := by
  cases hp with
  | same | got => exact h
  | acked hp => exact ⟨fun _ => h.1 (by rw [hp]; rfl), fun _ => h.2.1 (by rw [hp]; rfl), fun hbl _ => h.2.2 hbl (by rw [hp]; rfl)⟩

theorem inv2_change {a b : St} (hc : Change a b) (h : Inv2 a) : Inv2 b := by
  cases hc with
  | mk g keep L R hg =>
    exact inv2_map a _ g h rfl rfl rfl rfl (fun r => (hg r).id_eq) (fun r => (hg r).holds) fun r => (hg r).phaseHold

theorem inv2_eff (a b : St) (he : Eff a b) (h : Inv2 a) : Inv2 b := by
  cases he with
  | regs | emit | refuse | closeUart | lost => exact h.same
  | add id key blocking nfrags timeout hfresh =>
    refine ⟨?_, fun r hr => ?_⟩
    · rw [List.map_append]
      refine List.nodup_append.mpr ⟨h.1, List.pairwise_singleton _ _, fun x hx y hy he => ?_⟩
      obtain ⟨r, hr, rfl⟩ := List.mem_map.mp hx
      exact hfresh r hr (he.trans (List.mem_singleton.mp hy))
    · rcases List.mem_append.mp hr with hr | hr
      · exact h.2 r hr
      · -- the new request holds nothing, and in `waitB` nothing is required of it
        cases List.mem_singleton.mp hr
        exact ⟨fun l hl => (by cases l <;> cases hl), nofun, nofun, fun _ => nofun⟩
  | ackEnd c hc => exact inv2_change (.ackEnd a c hc) h
  | answer i => exact inv2_change (.answer a i) h
  | cancelAll => exact inv2_change (.cancelAll a) h
  | unwind i o => exact inv2_unwind _ _ _ h

theorem inv2_pre (st : St) (e : Ev) (h : Inv2 st) : Inv2 (pre st e).1 :=
  pre_ind inv2_eff (fun _ _ h => h.same) st e h.same

theorem inv2_step (st : St) (e : Ev) (h : Inv2 st) : Inv2 (step st e) :=
  step_ind (fun _ _ hs => hs.same) inv2_runReq1 st e (inv2_pre st e h)

theorem inv2_init : Inv2 {} := ⟨by simp, fun r hr => by simp at hr⟩

theorem inv2_reachable (evs : List Ev) : Inv2 (runEvents {} evs).1 :=
  reachable_ind inv2_init (fun _ e h => inv2_step _ e h) evs

/-- a lock has one holder (both are the head of its queue) -/
theorem same_holder {st : St} (hinv : Inv2 st) (l : Lock) {r1 r2 : Req} (h1 : r1 ∈ st.reqs) (h2 : r2 ∈ st.reqs)
    (a1 : holds r1 l = true) (a2 : holds r2 l = true) : r1 = r2 :=
  unique_of_id _ hinv.1 r1 r2 h1 h2 (Option.some.inj (((hinv.2 r1 h1).1 l a1).symm.trans ((hinv.2 r2 h2).1 l a2)))

/-- the phases in which a request holds lock `l` -/
def heldPhase (l : Lock) (r : Req) : Prop :=
  match l with
  | .T => ackPhase r.phase = true
  | .M => inTransmit r.phase = true
  | .B => r.blocking = true ∧ afterB r.phase = true

theorem PhaseHold.holds {r : Req} (h : PhaseHold r) {l : Lock} (p : heldPhase l r) : holds r l = true := by
  cases l with
  | B => exact h.2.2 p.1 p.2
  | M => exact h.1 p
  | T => exact h.2.1 p

/-- at any time one transmitter (M), one acknowledgement wait (T), one blocking request past its lock (B) -/
theorem same_of_lockPhase {st : St} (hinv : Inv2 st) (l : Lock) {r1 r2 : Req} (h1 : r1 ∈ st.reqs) (h2 : r2 ∈ st.reqs)
    (p1 : heldPhase l r1) (p2 : heldPhase l r2) : r1 = r2 :=
  same_holder hinv l h1 h2 ((hinv.2 r1 h1).2.holds p1) ((hinv.2 r2 h2).2.holds p2)

theorem same_of_inTransmit (st : St) (hinv : Inv2 st) (r1 r2 : Req) (h1 : r1 ∈ st.reqs) (h2 : r2 ∈ st.reqs)
    (t1 : inTransmit r1.phase = true) (t2 : inTransmit r2.phase = true) : r1 = r2 :=
  same_of_lockPhase hinv .M h1 h2 t1 t2

/-! ## frame -/

/-- what task steps never touch -/
structure Frame (st st' : St) : Prop where
  isOpen : st'.isOpen = st.isOpen
  transport : st'.transport = st.transport
  resetting : st'.resetting = st.resetting
  pack : st'.pack = st.pack
  now : st'.now = st.now
  gen : st'.gen = st.gen
  listeners : ∀ l ∈ st'.listeners, l ∈ st.listeners
  out : ∃ extra, st'.out = st.out ++ extra ∧ ∀ o ∈ extra, isWD o = true

theorem Frame.trans {a b c : St} (h1 : Frame a b) (h2 : Frame b c) : Frame a c := by
  obtain ⟨e1, he1, hw1⟩ := h1.out
  obtain ⟨e2, he2, hw2⟩ := h2.out
  exact ⟨h2.isOpen.trans h1.isOpen, h2.transport.trans h1.transport, h2.resetting.trans h1.resetting,
    h2.pack.trans h1.pack, h2.now.trans h1.now, h2.gen.trans h1.gen, fun l hl => h1.listeners l (h2.listeners l hl),
    e1 ++ e2, by rw [he2, he1, List.append_assoc], fun o ho => by
      rcases List.mem_append.mp ho with h | h
      · exact hw1 o h
      · exact hw2 o h⟩

theorem Frame.of_eq {st st' : St}
    (h : { st' with reqs := st.reqs, bq := st.bq, mq := st.mq, tq := st.tq, ready := st.ready } = st) : Frame st st' :=
  Eq.subst (motive := fun s => Frame s st') h
    ⟨rfl, rfl, rfl, rfl, rfl, rfl, fun _ h => h, [], (List.append_nil _).symm, fun _ h => (List.not_mem_nil h).elim⟩

theorem Frame.refl (st : St) : Frame st st := .of_eq rfl

theorem frame_blind (st : St) : LockBlind (Frame st) :=
  ⟨fun s l q h => h.trans (by cases l <;> exact .of_eq rfl), fun s i l b h => h.trans (.of_eq rfl),
   fun s rd h => h.trans (.of_eq rfl)⟩

theorem frame_emit (st : St) (o : Out) (ho : isWD o = true) : Frame st (emit st o) :=
  ⟨rfl, rfl, rfl, rfl, rfl, rfl, fun _ h => h, [o], rfl, by simpa using ho⟩

theorem frame_acquire (st : St) (l : Lock) (i : Nat) : Frame st (acquire st l i).1 :=
  blind_acquire (frame_blind st) st l i (.refl st)

theorem frame_release (st : St) (l : Lock) (i : Nat) : Frame st (release st l i) :=
  blind_release (frame_blind st) st l i (.refl st)

theorem frame_finish (st : St) (i : Nat) (o : Outcome) : Frame st (finish st i o) :=
  ⟨rfl, rfl, rfl, rfl, rfl, rfl, fun l hl => (List.mem_filter.mp hl).1, [.done i o], rfl, fun _ h => by rw [List.mem_singleton.mp h]; rfl⟩

theorem frame_unwind (st : St) (i : Nat) (o : Outcome) : Frame st (unwind st i o) :=
  (blind_unwindLocks (frame_blind st) st i (.refl st)).trans (frame_finish _ i o)

theorem frame_micro {st st' : St} {i : Nat} {r : Req} {c : Bool} (hm : Micro st i r st' c) : Frame st st' := by
  have upd : ∀ {s : St} (f : Req → Req), Frame st s → Frame st (updReq s i f) := fun f hs => hs.trans (.of_eq rfl)
  cases hm with
  | idle => exact .refl st
  | skipB | toWaitT => exact upd _ (.refl st)
  | blocked l => exact frame_acquire st l i
  | locked l | skipWrite => exact upd _ (frame_acquire st _ i)
  | write => exact upd _ ((frame_acquire st .T i).trans (frame_emit _ _ rfl))
  | refused | cancelled => exact frame_unwind _ _ _
  | nextFrag => exact upd _ (frame_release st .T i)
  | lastFrag => exact upd _ ((frame_release st .T i).trans (frame_release _ .M i))
  | answered =>
    split
    · exact (frame_release st .B i).trans (frame_finish _ _ _)
    · exact frame_finish _ _ _

theorem frame_runReq (fuel : Nat) (st : St) (i : Nat) : Frame st (runReq fuel st i) :=
  runReq_ind (Frame st) i (fun s hs => hs.trans (runReq1_elim s i (fun _ => .refl s) fun _ _ => frame_micro)) fuel st
    (.refl st)

theorem frame_settle (fuel : Nat) (st : St) : Frame st (settle fuel st) :=
  settle_ind (Frame st) (fun _ _ hs => hs.trans (.of_eq rfl)) (fun s i hs => hs.trans (frame_runReq 1 s i)) fuel st
    (.refl st)

theorem frame_step (st : St) (e : Ev) : Frame (pre st e).1 (step st e) := by
  rw [step_eq_pre]
  cases (pre st e).2
  · exact .refl _
  · exact frame_settle _ _

theorem notmem_of_frame {st st' : St} (hf : Frame st st') (o : Out) (hwd : isWD o = false) (h : o ∉ st.out) : o ∉ st'.out := by
  obtain ⟨extra, he, hw⟩ := hf.out
  rw [he]
  intro hm
  rcases List.mem_append.mp hm with h1 | h1
  · exact h h1
  · exact Bool.false_ne_true (hwd.symm.trans (hw o h1))

theorem count_of_frame {st st' : St} (hf : Frame st st') (o : Out) (hwd : isWD o = false) :
    (st'.out.filter (· == o)).length = (st.out.filter (· == o)).length := by
  obtain ⟨extra, he, hw⟩ := hf.out
  have : extra.filter (· == o) = [] := List.filter_eq_nil_iff.mpr fun x hx hq =>
    Bool.false_ne_true (hwd.symm.trans (beq_iff_eq.mp hq ▸ hw x hx))
  rw [he, List.filter_append, this, List.append_nil]

theorem frame_foldl_unwind (ids : List Nat) (st : St) (o : Outcome) : Frame st (ids.foldl (fun s i => unwind s i o) st) :=
  foldl_unwind_ind ids o (fun s i _ hs => hs.trans (frame_unwind s i o)) st (.refl st)

end Zboss.Host
