import ZbossModel.Frame
import ZbossModel.Proofs.Header
/-! The header every transmitted frame carries (`LL.sealed (LL.withFlags (LL.base n) F)`), and the library's
    decoder on a valid header followed by anything. -/
namespace Zboss
open Gen

theorem LL.sealed_fields (n F : Nat) (hlen : n ≤ 65535) :
    let h := LL.sealed (LL.withFlags (LL.base n) F)
    LL.sig h = Gen.signature ∧ LL.size h = n ∧ LL.ftype h = Gen.typeHL ∧ LL.flags h = F % 256 ∧
    LL.crc h = (Crc.crc8B (toLE 2 n ++ [6, UInt8.ofNat F])).toNat ∧ LL.crcOf h = LL.crc h := by
  have hn : n % 65536 = n := Nat.mod_eq_of_lt (by omega)
  have hc : LL.crcOf (LL.withFlags (LL.base n) F) = (Crc.crc8B (toLE 2 n ++ [6, UInt8.ofNat F])).toNat := by
    simp [LL.crcOf_eq, LL.base, hn, UInt8.ofNat_mod_size']; rfl
  have hb := Nat.mod_eq_of_lt (Crc.crc8B (toLE 2 n ++ [6, UInt8.ofNat F])).toNat_lt
  simp only [LL.sealed, LL.crcOf_withCrc, LL.crc_withCrc, hc, hb]
  simp [LL.base, hn]
  decide

theorem LL.bytes_sealed (n F : Nat) (hlen : n ≤ 65535) :
    LL.bytes (LL.sealed (LL.withFlags (LL.base n) F)) =
      [0xDE, 0xAD] ++ toLE 2 n ++ [6, UInt8.ofNat F, Crc.crc8B (toLE 2 n ++ [6, UInt8.ofNat F])] := by
  obtain ⟨h1, h2, h3, h4, h5, -⟩ := LL.sealed_fields n F hlen
  rw [LL.bytes_eq, h1, h2, h3, h4, h5, UInt8.ofNat_mod_size', UInt8.ofNat_toNat,
    show toLE 2 Gen.signature = [0xDE, 0xAD] by decide]
  rfl

theorem Frame.stamp_mkData (seq fl n : Nat) (p : HLPacket) :
    Frame.stamp seq (Frame.mkData fl p n) = ⟨LL.sealed (LL.withFlags (LL.base n) (seq <<< 2 ||| fl % 256)), some p⟩ := by
  rw [Frame.stamp, Frame.mkData, LL.flags_withFlags, LL.withFlags_withFlags]

theorem Frame.stamp_flags (s : Nat) (f : Frame) : LL.flags (Frame.stamp s f).ll = ((s <<< 2) ||| LL.flags f.ll) % 256 := by
  simp [Frame.stamp, LL.sealed]

theorem Frame.pyTake_nat {α} (l : List α) (k : Nat) : Frame.pyTake l (k : Int) = l.take k := by simp [Frame.pyTake]
theorem Frame.pyDrop_nat {α} (l : List α) (k : Nat) : Frame.pyDrop l (k : Int) = l.drop k := by simp [Frame.pyDrop]

theorem Frame.hasFlag_or (fl a b : Nat) : Frame.hasFlag fl (a ||| b) = (Frame.hasFlag fl a || Frame.hasFlag fl b) := by
  unfold Frame.hasFlag
  rw [Nat.and_or_distrib_left]
  by_cases h1 : fl &&& a = 0 <;> by_cases h2 : fl &&& b = 0 <;> simp [h1, h2, Nat.or_eq_zero_iff]

theorem Frame.deserialize_bytes (ll : LL) (t : Bytes) (hs : LL.sig ll = Gen.signature) (hc : LL.crcOf ll = LL.crc ll) :
    Frame.deserialize (LL.bytes ll ++ t) =
      if Frame.hasFlag (LL.flags ll) Gen.flagisACK then .ok (⟨ll, none⟩, t) else
      if Frame.hasFlag (LL.flags ll) Gen.flagFirstFrag then
        (HLPacket.deserialize (Frame.pyTake t ((LL.size ll : Int) - 5))).map
          fun p => (⟨ll, some p⟩, Frame.pyDrop t ((LL.size ll : Int) - 5))
      else .ok (⟨ll, some ⟨none, Frame.pyTake t ((LL.size ll : Int) - 5)⟩⟩, Frame.pyDrop t ((LL.size ll : Int) - 5)) := by
  have hl := LL.bytes_length ll
  have h7 : ¬ (LL.bytes ll ++ t).length < 7 := by rw [List.length_append, hl]; exact Nat.not_lt.2 (Nat.le_add_right ..)
  rw [Frame.deserialize, if_neg h7, LL.ofBytes_bytes, if_neg (not_not_intro hs), if_neg (not_not_intro hc),
    List.drop_left' hl]
  dsimp only
  cases HLPacket.deserialize (Frame.pyTake t ((LL.size ll : Int) - 5)) <;> rfl

theorem HLPacket.serialize_length (p : HLPacket) : p.serialize.length = p.body.length + 2 := by
  rw [HLPacket.serialize, List.length_append, toLE_length, Nat.add_comm]

theorem HLPacket.body_some (h : HLH) (hh : h ≠ 0#32) (data : Bytes) :
    (HLPacket.mk (some h) data).body = HLH.bytes h ++ data := by simp [HLPacket.body, hh]

theorem HLPacket.deserialize_serialize (h : HLH) (hh : h ≠ 0#32) (data : Bytes) :
    HLPacket.deserialize (HLPacket.mk (some h) data).serialize = .ok ⟨some h, data⟩ := by
  have hc : Crc.crc16B (HLH.bytes h ++ data) < 256 ^ 2 := (Crc.crc16 _).isLt
  have hl := HLH.bytes_length h
  simp [HLPacket.deserialize, HLPacket.serialize, HLPacket.body_some h hh, fromLE_toLE 2 _ hc, HLH.ofBytes_bytes, hl]
  rw [if_neg (by omega), if_neg (by omega)]

/-- flags byte on the wire: the frame's own flags or-ed with the packet sequence number in bits 2..3 -/
def wireFlags (fl seq : Nat) : Nat := ((seq <<< 2) ||| (fl % 256)) % 256

theorem wireFlags_byte (fl seq : Nat) : UInt8.ofNat (wireFlags fl seq) = UInt8.ofNat (seq <<< 2 ||| fl % 256) :=
  UInt8.ofNat_mod_size'

theorem Frame.serialize_stamp_mkData (fl seq n : Nat) (p : HLPacket) (hn : n = p.serialize.length + 5) (hlen : n ≤ 65535) :
    (Frame.stamp seq (Frame.mkData fl p n)).serialize =
      [0xDE, 0xAD] ++ toLE 2 n ++
      [6, UInt8.ofNat (wireFlags fl seq), Crc.crc8B (toLE 2 n ++ [6, UInt8.ofNat (wireFlags fl seq)])] ++
      toLE 2 (Crc.crc16B p.body) ++ p.body
    ∧ (Frame.stamp seq (Frame.mkData fl p n)).serialize.length = n + 2 := by
  rw [Frame.stamp_mkData]
  simp only [Frame.serialize, HLPacket.serialize, LL.bytes_sealed n _ hlen, ← wireFlags_byte, List.append_assoc,
    true_and] at hn ⊢
  simp at hn ⊢
  omega

theorem deserialize_ack (ll : LL) (r : Bytes) (hs : LL.sig ll = Gen.signature) (hc : LL.crcOf ll = LL.crc ll)
    (ha : Frame.hasFlag (LL.flags ll) Gen.flagisACK = true) :
    Frame.deserialize (LL.bytes ll ++ r) = .ok (⟨ll, none⟩, r) := by
  rw [Frame.deserialize_bytes ll r hs hc, if_pos ha]

/-- the `||| 1` of `Frame.ack` is the ACK bit, whatever the sequence number -/
theorem Frame.ack_isAck (seq : Nat) (rt : Bool) :
    Frame.hasFlag (((seq <<< 4) ||| Gen.flagisACK ||| (if rt then Gen.flagRetransmit else 0)) % 256) Gen.flagisACK =
      true := by
  have : ((seq <<< 4) ||| 1 ||| (if rt then Gen.flagRetransmit else 0)) % 256 % 2 = 1 := by
    rw [Nat.mod_mod_of_dvd _ (by decide)]
    exact Nat.or_mod_two_eq_one.2 (.inl (Nat.or_mod_two_eq_one.2 (.inr rfl)))
  simp [Frame.hasFlag, Gen.flagisACK, Nat.and_one_is_mod, this]

theorem ack_roundtrip (seq : Nat) (retransmit : Bool) (r : Bytes) :
    let F := (seq <<< 4) ||| 1 ||| (if retransmit then 2 else 0)
    (Frame.ack seq retransmit).serialize =
      [0xDE, 0xAD, 5, 0, 6, UInt8.ofNat F, Crc.crc8B [5, 0, 6, UInt8.ofNat F]] ∧
    Frame.deserialize ((Frame.ack seq retransmit).serialize ++ r) = .ok (Frame.ack seq retransmit, r) := by
  intro F
  obtain ⟨h1, -, -, h4, -, h6⟩ := LL.sealed_fields 5 F (by decide)
  have hs : (Frame.ack seq retransmit).serialize = LL.bytes (LL.sealed (LL.withFlags (LL.base 5) F)) := rfl
  rw [hs]
  exact ⟨LL.bytes_sealed 5 F (by decide), deserialize_ack _ r h1 h6 (h4 ▸ Frame.ack_isAck seq retransmit)⟩

end Zboss
