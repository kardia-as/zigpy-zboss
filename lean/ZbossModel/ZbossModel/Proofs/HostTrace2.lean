import ZbossModel.Proofs.HostRest
/-! The whole-history trace theorem across reconnects.  `Proofs/HostTrace.lean` couples the message monitor to the
    state only while the transport exists (and, since `connect()` is an event, only on the first connection): once the
    transport is gone a request in `waitT` skips its write, and monitor and state drift apart.  Here the coupling is kept
    unconditionally: at a quiescent point nobody is in `waitT` (no lost wake-up + rest + at most one request in
    transmission), `close()` happens at quiescent points, and while the API has no uart no request ever reaches `waitT`.
    So the skip never happens on a reachable history, the coupling survives `close()` and `connect()`, and the complete
    output log of every history - any number of reconnects - is accepted. -/
namespace Zboss.Host

/-- while there is no transport nobody is about to write -/
def Jv (v : View) : Prop := v.transport = false → ∀ c ∈ v.cores, c.phase ≠ .waitT

/-- the monitor has accepted everything so far and is coupled to the state - with or without a transport -/
def Cpl (hist : List Out) (v : View) : Prop := ∃ m, monRun none (hist ++ v.out) = some m ∧ TI m v.cores

theorem cplG_true {hist : List Out} {v : View} : CplG True hist v ↔ Cpl hist v :=
  ⟨fun ⟨m, hm, ht⟩ => ⟨m, hm, ht trivial⟩, fun ⟨m, hm, ht⟩ => ⟨m, hm, fun _ => ht⟩⟩

/-- everything the unconditional coupling needs of a state -/
structure Strong (hist : List Out) (st : St) : Prop where
  inv : Inv2 st
  flags : FlagInv st
  cpl : Cpl hist (view st)
  j : Jv (view st)

theorem allowed_waitT {t : Bool} {c0 : Core} {g : Core → Core} (ha : Allowed t c0 g) (c : Core)
    (h : (g c).phase = .waitT) : c0.phase = .sendfrag := by
  rcases ha with ⟨hp, rfl⟩ | ⟨hp, rfl⟩ | ⟨hp, rfl⟩ | ⟨hp, _, rfl⟩ | ⟨hp, _, rfl⟩ | ⟨hp, _, rfl⟩ <;>
    first | exact hp | cases h

theorem strong_runReq1 (hist : List Out) (st : St) (i : Nat) (h : Strong hist st) : Strong hist (runReq 1 st i) := by
  cases hg : getReq st i with
  | none => rw [runReq_none st i hg]; exact h
  | some r =>
    obtain ⟨hrm, hrid⟩ := getReq_mem st i r hg
    have h0 : core r ∈ (view st).cores := List.mem_map_of_mem hrm
    have hmv := micro_view st i r hg
    -- the skip of a write (`waitT` without a transport) is excluded by `Jv`
    refine ⟨inv2_runReq1 st i h.inv, flag_runReq 1 st i h.flags,
      cplG_true.mp (cplG_micro (cplG_true.mpr h.cpl) (uniq_of_inv2 st h.inv) h0 hrid hmv (fun _ => trivial)
        fun _ hf => h.j hf _ h0), fun hf => ?_⟩
    have htr : st.transport = false := (frame_runReq 1 st i).transport.symm.trans hf
    -- nobody was in `waitT`, and whatever the task does to its own record, it does not come there
    have upd : ∀ g : Core → Core, (∀ c, (g c).phase ≠ .waitT) → ∀ c ∈ ((view st).upd i g).cores, c.phase ≠ .waitT :=
      fun g hg => forall_mem_upd (fun c hc _ => h.j htr c hc) fun c _ _ => hg c
    by_cases hsf : r.phase = .sendfrag
    · -- without a transport the API has no uart either: `_send_to_uart` raises
      rw [runReq_sendfrag st i r hg hsf, h.flags htr, if_neg Bool.false_ne_true, view_unwind]
      exact upd toDone fun _ => nofun
    · generalize view (runReq 1 st i) = v' at hmv
      cases hmv with
      | stay => exact h.j htr
      | move g ha => exact upd g fun c hwt => hsf (allowed_waitT ha c hwt)
      | write s hp htr' => rw [show (view st).transport = false from htr] at htr'; cases htr'
      | fin o _ => exact upd toDone fun _ => nofun

/-- coupling + "nobody about to write without a transport", as one predicate on states -/
def CJ (hist : List Out) (st : St) : Prop := Cpl hist (view st) ∧ Jv (view st)

/-- when the loop is at rest nobody is in `waitT`: a request there would be parked behind the holder of the transmit
    lock, who is inside its own transmission - but at most one request is -/
theorem no_waitT_at_rest (st : St) (hg : Good st) (hq : st.ready = []) : ∀ r ∈ st.reqs, r.phase ≠ .waitT := by
  intro r hrm hp
  obtain ⟨hin, hnh⟩ := hg.live.waits_queued hq hrm (l := .T) hp
  obtain ⟨a, t, hqq⟩ := List.exists_cons_of_ne_nil (List.ne_nil_of_mem hin)
  obtain ⟨ra, hram, rfl, _, hd⟩ := hg.live.qi .T a (by rw [hqq]; exact List.mem_cons_self ..)
  have hhead : (queue st .T).head? = some ra.id := by rw [hqq]; rfl
  rcases hd with hwt | ⟨_, hheld⟩
  · -- the head itself only waits: it would have to be parked behind itself
    exact (hg.live.waits_queued hq hram hwt.1).2 hhead
  · -- the head holds the lock inside its transmission: so it is `r`
    exact hnh (same_of_inTransmit st hg.inv ra r hram hrm (inTransmit_of_ackPhase hheld) (by rw [hp]; rfl) ▸ hhead)

theorem noWaitT_eff (a b : St) (he : Eff a b) (h : ∀ r ∈ a.reqs, r.phase ≠ .waitT) : ∀ r ∈ b.reqs, r.phase ≠ .waitT := by
  have change : ∀ {b}, Change a b → ∀ r ∈ b.reqs, r.phase ≠ .waitT := by
    rintro _ ⟨g, _, _, _, hg⟩ r' hr' hp
    obtain ⟨r, hr, rfl⟩ := List.mem_map.mp hr'
    rcases (hg r).phase with e | ⟨_, e⟩
    · exact h r hr (e ▸ hp)
    · rw [e] at hp; cases hp
  cases he with
  | regs | emit | refuse | closeUart | lost => exact h
  | add => exact List.forall_mem_append.mpr ⟨h, List.forall_mem_singleton.mpr nofun⟩
  | ackEnd c hc => exact change (.ackEnd a c hc)
  | answer i => exact change (.answer a i)
  | cancelAll => exact change (.cancelAll a)
  | unwind i o => exact phases_unwind (· ≠ .waitT) nofun a i o h

/-- `close()` needs the loop to be at rest: nobody is in `waitT` then, and no immediate effect brings anybody there, so
    the transport may go -/
theorem cj_pre (hist : List Out) (st : St) (e : Ev) (hg : Good st) (hq : st.ready = []) (h : CJ hist st) :
    CJ (hist ++ st.out) (pre st e).1 := by
  have := pre_ind (P := fun s => (∀ r ∈ s.reqs, r.phase ≠ .waitT) ∧ CplG True (hist ++ st.out) (view s))
    (fun a b he h => ⟨noWaitT_eff a b he h.1, cplG_eff _ a b he h.2⟩) (fun _ _ h => h) st e
    ⟨no_waitT_at_rest st hg hq, (cplG_true.mpr h.1).flush⟩
  exact ⟨cplG_true.mp this.2, fun _ => List.forall_mem_map.mpr this.1⟩

theorem strong_of (hist : List Out) (st : St) (hg : Good st) (h : CJ hist st) : Strong hist st :=
  ⟨hg.inv, hg.flags, h.1, h.2⟩

theorem cj_step (hist : List Out) (st : St) (e : Ev) (hg : Good st) (hq : st.ready = []) (h : CJ hist st) :
    CJ (hist ++ st.out) (step st e) := by
  have hp := cj_pre hist st e hg hq h
  have := step_ind (P := Strong (hist ++ st.out)) (fun _ _ hs => ⟨hs.inv.same, hs.flags, hs.cpl, hs.j⟩)
    (strong_runReq1 _) st e ⟨inv2_pre st e hg.inv, flag_pre st e hg.flags, hp.1, hp.2⟩
  exact ⟨this.cpl, this.j⟩

theorem cj_init : CJ [] ({} : St) := ⟨⟨none, rfl, ti_nil⟩, fun _ _ h => (List.not_mem_nil h).elim⟩

theorem cj_reachable (evs : List Ev) :
    ∃ hist, (runEvents {} evs).2.flatten = hist ++ (runEvents {} evs).1.out ∧ CJ hist (runEvents {} evs).1 :=
  reachable_log_ind cj_init (fun evs e hist h => cj_step hist _ e (good_reachable evs) (rest_reachable evs) h) evs

/-- the monitor accepts the whole output log of every event sequence - any number of `close()` / `connect()` cycles
    included -/
theorem mon_accepts_all (evs : List Ev) : ∃ m, monRun none (runEvents {} evs).2.flatten = some m := by
  obtain ⟨hist, hl, hb⟩ := cj_reachable evs
  obtain ⟨m, hm, _⟩ := hb.1
  exact ⟨m, by rw [hl]; exact hm⟩

/-- the monitor accepts the whole output log of every event sequence on the first connection -/
theorem mon_accepts (evs : List Ev) (hgen : (runEvents {} evs).1.gen = 0) :
    ∃ m, monRun none (runEvents {} evs).2.flatten = some m :=
  mon_accepts_all evs

end Zboss.Host
