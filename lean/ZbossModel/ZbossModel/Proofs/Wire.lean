import ZbossModel.Wire
/-! Scalars, records and counted lists of records are *fixed-size codecs* (`Fixed`): the decoder refuses fewer than
    `n` bytes, and on `n` bytes or more it reads the first `n`, undoing the encoder.  `Fixed` is closed under
    sequencing (`Fixed.seq`), which is all that records and counted lists are.  A parameter type (`decW`) puts a count
    or a header in front of such a codec, or - the greedy lists - runs one until the data ends. -/
namespace Zboss.Wire

theorem toLE_length' (k n : Nat) : (toLE k n).length = k := toLE_length k n

/-- `Enc v b`: "`b` is the encoding of `v`". -/
structure Fixed {α : Type} (Enc : α → Bytes → Prop) (dec : Bytes → Except Err (α × Bytes)) (n : Nat) (val : Bytes → α) :
    Prop where
  dec_eq : ∀ d, dec d = if d.length < n then .error .valueError else .ok (val (d.take n), d.drop n)
  val_enc : ∀ {v b}, Enc v b → b.length = n ∧ val b = v
  val_inj : ∀ {x y}, x.length = n → y.length = n → val x = val y → x = y

namespace Fixed
variable {α : Type} {Enc : α → Bytes → Prop} {dec : Bytes → Except Err (α × Bytes)} {n : Nat} {val : Bytes → α}

theorem short (h : Fixed Enc dec n val) {d} (hl : d.length < n) : dec d = .error .valueError := by
  rw [h.dec_eq, if_pos hl]

theorem long (h : Fixed Enc dec n val) {d} (hl : n ≤ d.length) : dec d = .ok (val (d.take n), d.drop n) := by
  rw [h.dec_eq, if_neg (Nat.not_lt.mpr hl)]

theorem exact (h : Fixed Enc dec n val) {v b} (r) (he : Enc v b) : dec (b ++ r) = .ok (v, r) := by
  obtain ⟨hb, hv⟩ := h.val_enc he
  rw [h.long (by rw [List.length_append, hb]; exact Nat.le_add_right ..), List.take_left' hb, List.drop_left' hb, hv]

theorem of_ok (h : Fixed Enc dec n val) {d v r} (hd : dec d = .ok (v, r)) :
    n ≤ d.length ∧ v = val (d.take n) ∧ r = d.drop n := by
  rw [h.dec_eq] at hd
  split at hd
  · cases hd
  · cases hd; exact ⟨Nat.not_lt.mp ‹_›, rfl, rfl⟩

theorem of_error (h : Fixed Enc dec n val) {d e} (hd : dec d = .error e) : e = .valueError := by
  rw [h.dec_eq] at hd
  split at hd <;> cases hd
  rfl

theorem sound (h : Fixed Enc dec n val) {d v r b} (hd : dec d = .ok (v, r)) (he : Enc v b) : d = b ++ r := by
  obtain ⟨hl, rfl, rfl⟩ := h.of_ok hd
  rw [h.val_inj (h.val_enc he).1 (List.length_take_of_le hl) (h.val_enc he).2, List.take_append_drop]

/-- `he₁ he₂ hok` say that `dec'` runs `dec`, then `decB` on the rest, and combines the values with `f` -/
theorem seq (h : Fixed Enc dec n val) {β γ : Type} {EncB : β → Bytes → Prop} {decB : Bytes → Except Err (β × Bytes)}
    {m : Nat} {valB : Bytes → β} (hB : Fixed EncB decB m valB)
    {f : α → β → γ} (hf : ∀ {a b a' b'}, f a b = f a' b' → a = a' ∧ b = b')
    {Enc' : γ → Bytes → Prop} {dec' : Bytes → Except Err (γ × Bytes)}
    (he₁ : ∀ {d e}, dec d = .error e → dec' d = .error e)
    (he₂ : ∀ {d a r e}, dec d = .ok (a, r) → decB r = .error e → dec' d = .error e)
    (hok : ∀ {d a r b r'}, dec d = .ok (a, r) → decB r = .ok (b, r') → dec' d = .ok (f a b, r'))
    (henc : ∀ {c bs}, Enc' c bs → ∃ a b x y, c = f a b ∧ Enc a x ∧ EncB b y ∧ bs = x ++ y) :
    Fixed Enc' dec' (n + m) fun x => f (val (x.take n)) (valB (x.drop n)) := by
  refine ⟨fun d => ?_, fun {c bs} hc => ?_, fun {x y} hx hy hv => ?_⟩
  · have hd : (d.drop n).length = d.length - n := List.length_drop
    split
    · next hl =>
      rcases Nat.lt_or_ge d.length n with hn | hn
      · exact he₁ (h.short hn)
      · exact he₂ (h.long hn) (hB.short (hd ▸ Nat.sub_lt_left_of_lt_add hn hl))
    · next hl =>
      have hl := Nat.not_lt.1 hl
      rw [hok (h.long (Nat.le_of_add_right_le hl)) (hB.long (hd ▸ Nat.le_sub_of_add_le' hl)), List.drop_drop,
        List.take_take, List.drop_take, Nat.min_eq_left (Nat.le_add_right ..), Nat.add_sub_cancel_left]
  · obtain ⟨a, b, x, y, rfl, hx, hy, rfl⟩ := henc hc
    obtain ⟨lx, vx⟩ := h.val_enc hx
    obtain ⟨ly, vy⟩ := hB.val_enc hy
    exact ⟨by rw [List.length_append, lx, ly], by rw [List.take_left' lx, List.drop_left' lx, vx, vy]⟩
  · obtain ⟨h1, h2⟩ := hf hv
    have ht {z : Bytes} (hz : z.length = n + m) : (z.take n).length = n ∧ (z.drop n).length = m :=
      ⟨List.length_take_of_le (hz ▸ Nat.le_add_right n m), by rw [List.length_drop, hz, Nat.add_sub_cancel_left]⟩
    rw [← List.take_append_drop n x, ← List.take_append_drop n y, h.val_inj (ht hx).1 (ht hy).1 h1,
      hB.val_inj (ht hx).2 (ht hy).2 h2]

end Fixed

def valS : ST → Bytes → SV
  | .uint _, x => .num (fromLE x)
  | .sint k, x => .num (if (fromLE x : Int) < pow256 k / 2 then fromLE x else fromLE x - pow256 k)
  | .blob _, x => .raw x

theorem decS_eq (t : ST) (d : Bytes) :
    decS t d = if d.length < t.size then .error .valueError else .ok (valS t (d.take t.size), d.drop t.size) := by
  cases t <;> rfl

/-- two's complement on `P` values, the upper `P - H` of them negative -/
theorem twos_val {P H n : Int} (hH : 2 * H ≤ P) (h1 : -H ≤ n) (h2 : n < H) :
    let w : Nat := if n < 0 then (n + P).toNat else n.toNat
    (w : Int) < P ∧ (if (w : Int) < H then (w : Int) else w - P) = n := by
  by_cases hn : n < 0
  · have h : 0 ≤ n + P ∧ ¬ n + P < H ∧ n + P < P ∧ n + P - P = n := by omega
    simp only [if_pos hn, Int.toNat_of_nonneg h.1, if_neg h.2.1]
    exact h.2.2
  · simp only [if_neg hn, Int.toNat_of_nonneg (Int.not_lt.mp hn), if_pos h2]
    exact ⟨by omega, trivial⟩

theorem twos_inj {P H : Int} {u w : Nat} (hu : (u : Int) < P) (hw : (w : Int) < P)
    (h : (if (u : Int) < H then (u : Int) else u - P) = if (w : Int) < H then (w : Int) else w - P) : u = w := by
  split at h <;> split at h <;> omega

theorem fixedS (t : ST) : Fixed (fun v b => encS t v = some b) (decS t) t.size (valS t) := by
  have lt {w : Nat} {k} (h : (w : Int) < pow256 k) : w < 256 ^ k := Int.ofNat_lt.mp h
  refine ⟨decS_eq t, fun {v b} he => ?_, fun {x y} hx hy hv => ?_⟩
  · cases t <;> cases v <;> simp only [encS, reduceCtorEq] at he <;> split at he <;> cases he
    · next k n hc =>
      have hn : (n.toNat : Int) = n := Int.toNat_of_nonneg hc.1
      exact ⟨toLE_length .., by rw [valS, fromLE_toLE _ _ (lt (hn ▸ hc.2)), hn]⟩
    · next k n hc =>
      obtain ⟨hw, hn⟩ := twos_val (Int.mul_ediv_self_le (by decide)) hc.1 hc.2
      exact ⟨toLE_length .., by rw [valS, fromLE_toLE _ _ (lt hw), hn]⟩
    · next hc => exact ⟨hc, rfl⟩
  · have hlt (z : Bytes) (hz : z.length = t.size) : (fromLE z : Int) < pow256 t.size := Int.ofNat_lt.mpr (hz ▸ fromLE_lt z)
    have back (h : fromLE x = fromLE y) : x = y := by rw [← toLE_fromLE x, ← toLE_fromLE y, hx, hy, h]
    cases t <;> simp only [valS, SV.num.injEq, SV.raw.injEq] at hv
    · exact back (Int.natCast_inj.mp hv)
    · exact back (twos_inj (hlt x hx) (hlt y hy) hv)
    · exact hv

theorem encRec_cons {t : ST} {ts : List ST} {vs : List SV} {b : Bytes} (h : encRec (t :: ts) vs = some b) :
    ∃ v vs' x y, vs = v :: vs' ∧ encS t v = some x ∧ encRec ts vs' = some y ∧ b = x ++ y := by
  cases vs with
  | nil => simp [encRec] at h
  | cons v vs =>
    cases h1 : encS t v <;> cases h2 : encRec ts vs <;> simp only [encRec, h1, h2, reduceCtorEq] at h
    exact ⟨v, vs, _, _, rfl, h1, h2, (Option.some.inj h).symm⟩

def valRec : List ST → Bytes → List SV
  | [], _ => []
  | t :: ts, x => valS t (x.take t.size) :: valRec ts (x.drop t.size)

theorem fixedRec : ∀ ts, Fixed (fun vs b => encRec ts vs = some b) (decRec ts) (recSize ts) (valRec ts)
  | [] => ⟨fun d => by simp [decRec, recSize, valRec], fun {vs b} h => by cases vs <;> simp_all [encRec, recSize, valRec],
      fun {x y} hx hy _ => by rw [List.eq_nil_of_length_eq_zero hx, List.eq_nil_of_length_eq_zero hy]⟩
  | t :: ts => (fixedS t).seq (fixedRec ts) (by simp) (fun h => by simp only [decRec, h])
      (fun h₁ h₂ => by simp only [decRec, h₁, h₂]) (fun h₁ h₂ => by simp only [decRec, h₁, h₂]) encRec_cons

theorem encRows_cons {ts : List ST} {r : List SV} {rs : List (List SV)} {b : Bytes} (h : encRows ts (r :: rs) = some b) :
    ∃ x y, encRec ts r = some x ∧ encRows ts rs = some y ∧ b = x ++ y := by
  cases h1 : encRec ts r <;> cases h2 : encRows ts rs <;> simp only [encRows, h1, h2, reduceCtorEq] at h
  exact ⟨_, _, rfl, rfl, (Option.some.inj h).symm⟩

def valRows (ts : List ST) : Nat → Bytes → List (List SV)
  | 0, _ => []
  | n + 1, x => valRec ts (x.take (recSize ts)) :: valRows ts n (x.drop (recSize ts))

theorem fixedRows (ts : List ST) : ∀ n,
    Fixed (fun rs b => rs.length = n ∧ encRows ts rs = some b) (decRowsN ts n) (n * recSize ts) (valRows ts n)
  | 0 => ⟨fun d => by simp [decRowsN, valRows], fun {rs b} h => by cases rs <;> simp_all [encRows, valRows],
      fun {x y} hx hy _ => by
        rw [Nat.zero_mul] at hx hy
        rw [List.eq_nil_of_length_eq_zero hx, List.eq_nil_of_length_eq_zero hy]⟩
  | n + 1 => by
    rw [Nat.succ_mul, Nat.add_comm (n * _)]
    refine (fixedRec ts).seq (fixedRows ts n) (by simp) (fun h => by simp only [decRowsN, h])
      (fun h₁ h₂ => by simp only [decRowsN, h₁, h₂]) (fun h₁ h₂ => by simp only [decRowsN, h₁, h₂]) fun {rs b} h => ?_
    obtain _ | ⟨r, rs⟩ := rs
    · cases h.1
    · obtain ⟨x, y, hx, hy, rfl⟩ := encRows_cons h.2
      exact ⟨r, rs, x, y, rfl, hx, ⟨Nat.succ.inj h.1, hy⟩, rfl⟩

theorem valRows_length (ts : List ST) : ∀ n x, (valRows ts n x).length = n
  | 0, _ => rfl
  | n + 1, x => by rw [valRows, List.length_cons, valRows_length ts n]

theorem encS_length (t : ST) (v : SV) (b : Bytes) (h : encS t v = some b) : b.length = t.size := ((fixedS t).val_enc h).1

theorem decS_encS (t : ST) (v : SV) (b r : Bytes) (h : encS t v = some b) : decS t (b ++ r) = .ok (v, r) :=
  (fixedS t).exact r h

theorem decS_short (t : ST) (data : Bytes) (h : data.length < t.size) : decS t data = .error .valueError :=
  (fixedS t).short h

theorem encRec_length (ts : List ST) (vs : List SV) (b : Bytes) (h : encRec ts vs = some b) : b.length = recSize ts :=
  ((fixedRec ts).val_enc h).1

theorem decRec_encRec (ts : List ST) (vs : List SV) (b r : Bytes) (h : encRec ts vs = some b) :
    decRec ts (b ++ r) = .ok (vs, r) := (fixedRec ts).exact r h

theorem decRec_short (ts : List ST) (data : Bytes) (h : data.length < recSize ts) :
    decRec ts data = .error .valueError := (fixedRec ts).short h

theorem encRows_length (ts : List ST) (rs : List (List SV)) (b : Bytes) (h : encRows ts rs = some b) :
    b.length = rs.length * recSize ts := ((fixedRows ts _).val_enc ⟨rfl, h⟩).1

theorem decRowsN_encRows (ts : List ST) (rs : List (List SV)) (b r : Bytes) (h : encRows ts rs = some b) :
    decRowsN ts rs.length (b ++ r) = .ok (rs, r) := (fixedRows ts _).exact r ⟨rfl, h⟩

theorem decRowsN_short (ts : List ST) (n : Nat) (data : Bytes) (h : data.length < n * recSize ts) :
    decRowsN ts n data = .error .valueError := (fixedRows ts n).short h

theorem encS_uint (k n : Nat) (h : n < 256 ^ k) : encS (.uint k) (.num (Int.ofNat n)) = some (toLE k n) := by
  have hc : (0 : Int) ≤ Int.ofNat n ∧ Int.ofNat n < pow256 k := ⟨Int.natCast_nonneg n, Int.ofNat_lt.mpr h⟩
  simp only [encS, if_pos hc]
  rfl

theorem decRowsAll_encRows (ts : List ST) (hpos : 0 < recSize ts) (rs : List (List SV)) (b : Bytes)
    (h : encRows ts rs = some b) (fuel : Nat) (hf : b.length ≤ fuel) : decRowsAll ts fuel b = .ok rs := by
  induction rs generalizing b fuel with
  | nil => cases h; cases fuel <;> simp [decRowsAll]
  | cons r rs ih =>
    obtain ⟨x, y, hx, hy, rfl⟩ := encRows_cons h
    have hl := encRec_length ts r x hx
    rw [List.length_append] at hf
    obtain _ | fuel := fuel
    · omega
    have hne : (x ++ y).isEmpty = false := by
      cases x
      · exact absurd hl (Nat.ne_of_lt hpos)
      · rfl
    simp only [decRowsAll, hne, Bool.false_eq_true, if_false, decRec_encRec ts r x y hx, ih y hy fuel (by omega)]

theorem decRowsAll_sound (ts : List ST) (hpos : 0 < recSize ts) (fuel : Nat) (data : Bytes) (rs : List (List SV)) (b : Bytes)
    (hf : data.length ≤ fuel) (h : decRowsAll ts fuel data = .ok rs) (he : encRows ts rs = some b) : data = b := by
  induction fuel generalizing data rs b with
  | zero =>
    cases List.eq_nil_of_length_eq_zero (by omega : data.length = 0)
    cases h; cases he; rfl
  | succ fuel ih =>
    simp only [decRowsAll] at h
    split at h
    · next hemp => cases h; cases he; simpa using hemp
    · cases h1 : decRec ts data with
      | error e => simp [h1] at h
      | ok p =>
        obtain ⟨r, r1⟩ := p
        cases h2 : decRowsAll ts fuel r1 with
        | error e => simp [h1, h2] at h
        | ok rs' =>
          simp only [h1, h2, Except.ok.injEq] at h
          subst h
          obtain ⟨x, y, hx, hy, rfl⟩ := encRows_cons he
          have hd := (fixedRec ts).sound h1 hx
          have hl := encRec_length ts r x hx
          rw [hd, ih r1 rs' y (by rw [hd, List.length_append] at hf; omega) h2 hy]

theorem decRowsAll_error_kind (ts : List ST) (fuel : Nat) (d : Bytes) (e : Err) (h : decRowsAll ts fuel d = .error e) :
    e = .valueError := by
  induction fuel generalizing d with
  | zero => simp [decRowsAll] at h
  | succ n ih =>
    simp only [decRowsAll] at h
    split at h
    · cases h
    · cases h1 : decRec ts d with
      | error e2 => simp only [h1] at h; cases h; exact (fixedRec ts).of_error h1
      | ok p =>
        obtain ⟨x, rest⟩ := p
        cases h2 : decRowsAll ts n rest with
        | error e2 => simp only [h1, h2] at h; cases h; exact ih rest h2
        | ok q => simp [h1, h2] at h

def sdHdr : List ST := [.uint 1, .uint 2, .uint 2, .uint 1, .uint 1, .uint 1]

theorem encW_some {w : WT} {v : Val} {b : Bytes} (h : encW w v = some b) :
    (∃ t x, w = .sc t ∧ v = .sc x ∧ encS t x = some b) ∨
    (∃ hd x, w = .lvBytes hd ∧ v = .bytes x ∧ x.length + 1 < 256 ^ hd ∧ b = toLE hd x.length ++ x) ∨
    (∃ hd ts rs c, w = .lvList hd ts ∧ v = .rows rs ∧ rs.length < 256 ^ hd ∧ encRows ts rs = some c ∧
      b = toLE hd rs.length ++ c) ∨
    (∃ ts rs, w = .greedy ts ∧ v = .rows rs ∧ encRows ts rs = some b) ∨
    (∃ ep pr dt dv ins outs a c, w = .simpleDesc ∧ v = .sd ep pr dt dv ins outs ∧
      encRec sdHdr [.num ep, .num pr, .num dt, .num dv, .num ins.length, .num outs.length] = some a ∧
      encRows [.uint 2] (u16s (ins ++ outs)) = some c ∧ b = a ++ c) := by
  cases w <;> cases v <;> simp only [encW, reduceCtorEq] at h
  · exact .inl ⟨_, _, rfl, rfl, h⟩
  · split at h <;> cases h
    next hc => exact .inr (.inl ⟨_, _, rfl, rfl, hc, rfl⟩)
  · split at h
    · next hc =>
      obtain ⟨c, hr, rfl⟩ := Option.map_eq_some_iff.mp h
      exact .inr (.inr (.inl ⟨_, _, _, _, rfl, rfl, hc, hr, rfl⟩))
    · cases h
  · exact .inr (.inr (.inr (.inl ⟨_, _, rfl, rfl, h⟩)))
  · unfold encSD at h
    split at h <;> cases h
    next ha hc => exact .inr (.inr (.inr (.inr ⟨_, _, _, _, _, _, _, _, rfl, rfl, ha, hc, rfl⟩)))

theorem count_prefix {h n : Nat} (hn : n < 256 ^ h) (y : Bytes) :
    ¬ (toLE h n ++ y).length < h ∧ fromLE ((toLE h n ++ y).take h) = n ∧ (toLE h n ++ y).drop h = y :=
  ⟨by simp, by rw [List.take_left' (toLE_length ..), fromLE_toLE _ _ hn], List.drop_left' (toLE_length ..)⟩

theorem take_append_short {α} {p c : List α} {k : Nat} (h1 : p.length ≤ k) (h2 : k < (p ++ c).length) :
    ∃ c', (p ++ c).take k = p ++ c' ∧ c'.length < c.length := by
  refine ⟨c.take (k - p.length), by rw [List.take_append, List.take_of_length_le h1], ?_⟩
  rw [List.length_append] at h2
  rw [List.length_take]
  exact Nat.lt_of_le_of_lt (Nat.min_le_left ..) (Nat.sub_lt_left_of_lt_add h1 h2)

theorem natOf_num (n : Nat) : natOf (.num n) = n := rfl

theorem u16s_back (l : List Nat) : (u16s l).map (fun r => natOf (r.headD (.num 0))) = l := by
  induction l with
  | nil => rfl
  | cons x l ih => simpa [u16s, natOf] using ih

theorem decW_encW (w : WT) (v : Val) (b r : Bytes) (hg : w.isGreedy = false) (h : encW w v = some b) :
    decW w (b ++ r) = .ok (v, r) := by
  rcases encW_some h with ⟨t, x, rfl, rfl, hx⟩ | ⟨hd, x, rfl, rfl, hx, rfl⟩ | ⟨hd, ts, rs, c, rfl, rfl, hl, hc, rfl⟩ |
    ⟨ts, rs, rfl, -, -⟩ | ⟨ep, pr, dt, dv, ins, outs, a, c, rfl, rfl, ha, hc, rfl⟩
  · simp only [decW, decS_encS t x b r hx]
  · obtain ⟨h1, h2, h3⟩ := count_prefix (h := hd) (n := x.length) (Nat.lt_of_succ_lt hx) (x ++ r)
    simp only [decW, List.append_assoc, if_neg h1, h2, h3, ← List.drop_drop]
    simp
  · obtain ⟨h1, h2, h3⟩ := count_prefix hl (c ++ r)
    simp only [decW, List.append_assoc, if_neg h1, h2, h3, decRowsN_encRows ts rs c r hc]
  · cases hg
  · have hr := decRowsN_encRows _ _ c r hc
    rw [u16s, List.length_map, List.length_append, ← u16s] at hr
    have hh := decRec_encRec sdHdr _ a (c ++ r) ha
    rw [sdHdr] at hh
    simp only [decW, List.append_assoc, hh, natOf_num, hr, u16s_back, List.take_left', List.drop_left']

theorem decW_encW_greedy (ts : List ST) (hpos : 0 < recSize ts) (rs : List (List SV)) (b : Bytes)
    (h : encW (.greedy ts) (.rows rs) = some b) : decW (.greedy ts) b = .ok (.rows rs, []) := by
  simp only [encW] at h
  simp [decW, decRowsAll_encRows ts hpos rs b h b.length (Nat.le_refl _)]

theorem decW_error_kind (w : WT) (data : Bytes) (e : Err) (h : decW w data = .error e) : e = .valueError := by
  cases w <;> simp only [decW] at h
  · split at h <;> cases h
    next he => exact (fixedS _).of_error he
  · split at h
    · cases h; rfl
    · split at h <;> cases h
      rfl
  · split at h
    · cases h; rfl
    · split at h <;> cases h
      next he => exact (fixedRows _ _).of_error he
  · split at h <;> cases h
    next he => exact decRowsAll_error_kind _ _ _ _ he
  · split at h
    · next he => cases h; exact (fixedRec _).of_error he
    · split at h
      · split at h <;> cases h
        next he => exact (fixedRows _ _).of_error he
      · cases h; rfl

theorem decW_truncated (w : WT) (v : Val) (b : Bytes) (hg : w.isGreedy = false) (h : encW w v = some b)
    (k : Nat) (hk : k < b.length) : decW w (b.take k) = .error .valueError := by
  have hlen : (b.take k).length = k := List.length_take_of_le (Nat.le_of_lt hk)
  rcases encW_some h with ⟨t, x, rfl, rfl, hx⟩ | ⟨hd, x, rfl, rfl, hx, rfl⟩ | ⟨hd, ts, rs, c, rfl, rfl, hl, hc, rfl⟩ |
    ⟨ts, rs, rfl, -, -⟩ | ⟨ep, pr, dt, dv, ins, outs, a, c, rfl, rfl, ha, hc, rfl⟩
  · simp only [decW, decS_short t _ (by rw [hlen, ← encS_length t x b hx]; exact hk)]
  · rcases Nat.lt_or_ge k hd with hkh | hkh
    · simp only [decW, hlen, hkh, if_true]
    · obtain ⟨c', hc', hlt⟩ := take_append_short (by rwa [toLE_length]) hk
      obtain ⟨h1, h2, -⟩ := count_prefix (h := hd) (n := x.length) (Nat.lt_of_succ_lt hx) c'
      simp only [hc', decW, if_neg h1, h2]
      rw [if_pos (by rw [List.length_append, toLE_length]; exact Nat.add_lt_add_left hlt hd)]
  · rcases Nat.lt_or_ge k hd with hkh | hkh
    · simp only [decW, hlen, hkh, if_true]
    · obtain ⟨c', hc', hlt⟩ := take_append_short (by rwa [toLE_length]) hk
      obtain ⟨h1, h2, h3⟩ := count_prefix hl c'
      simp only [hc', decW, if_neg h1, h2, h3, decRowsN_short ts _ _ (encRows_length ts rs c hc ▸ hlt)]
  · cases hg
  · have hal : a.length = 8 := encRec_length _ _ a ha
    rcases Nat.lt_or_ge k 8 with hka | hka
    · have hs := decRec_short sdHdr ((a ++ c).take k) (by rw [hlen]; exact hka)
      rw [sdHdr] at hs
      simp only [decW, hs]
    · obtain ⟨c', hc', hlt⟩ := take_append_short (by rwa [hal]) hk
      have hh := decRec_encRec sdHdr _ a c' ha
      rw [sdHdr] at hh
      rw [encRows_length _ _ c hc, u16s, List.length_map, List.length_append] at hlt
      simp only [hc', decW, hh, natOf_num, decRowsN_short _ _ _ hlt]

end Zboss.Wire
