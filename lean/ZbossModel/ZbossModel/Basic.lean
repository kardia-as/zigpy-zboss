/-! Bytes, little-endian integers and the few CPython sequence semantics the
    modelled functions rely on (slices never fail, they clamp). -/
namespace Zboss

abbrev Byte := UInt8
abbrev Bytes := List UInt8

/-- Python `data[a:b]` for `0 ≤ a`, `0 ≤ b` (clamping). -/
def slice (l : List α) (a b : Nat) : List α := (l.take b).drop a

theorem slice_append_drop (l : List α) (x s : Nat) (h : x + s ≤ l.length) :
    slice l x (x + s) ++ l.drop (x + s) = l.drop x := by
  unfold slice
  conv => rhs; rw [← List.take_append_drop (x + s) l]
  rw [List.drop_append_of_le_length (by simp; omega)]

theorem slice_length (l : List α) (x s : Nat) (h : x + s ≤ l.length) : (slice l x (x + s)).length = s := by
  rw [slice, List.length_drop, List.length_take, Nat.min_eq_left h, Nat.add_sub_cancel_left]

theorem slice_take {α} (l : List α) (i j k : Nat) (h : j ≤ k) : slice (l.take k) i j = slice l i j := by
  simp only [slice, List.take_take, Nat.min_eq_left h]

theorem getD_take (l : Bytes) (i k : Nat) (h : i < k) : (l.take k).getD i 0 = l.getD i 0 := by
  simp only [List.getD_eq_getElem?_getD, List.getElem?_take, if_pos h]

/-- little-endian encoding of `n` on `k` bytes (`int.to_bytes(k, "little")` for `n < 256^k`) -/
def toLE : Nat → Nat → Bytes
  | 0, _ => []
  | k + 1, n => UInt8.ofNat (n % 256) :: toLE k (n / 256)

/-- `int.from_bytes(bs, "little")` -/
def fromLE : Bytes → Nat
  | [] => 0
  | b :: t => b.toNat + 256 * fromLE t

@[simp] theorem toLE_length (k n : Nat) : (toLE k n).length = k := by
  induction k generalizing n with
  | zero => rfl
  | succ k ih => simp [toLE, ih]

theorem fromLE_toLE (k n : Nat) (h : n < 256 ^ k) : fromLE (toLE k n) = n := by
  induction k generalizing n with
  | zero => rw [Nat.lt_one_iff.1 h]; rfl
  | succ k ih =>
    have h2 : n / 256 < 256 ^ k := Nat.div_lt_of_lt_mul (by rwa [Nat.pow_succ, Nat.mul_comm] at h)
    rw [toLE, fromLE, ih _ h2, UInt8.toNat_ofNat', show 2 ^ 8 = 256 from rfl, Nat.mod_mod, Nat.mod_add_div]

theorem fromLE_lt (bs : Bytes) : fromLE bs < 256 ^ bs.length := by
  induction bs with
  | nil => simp [fromLE]
  | cons b t ih =>
    simp only [fromLE, List.length_cons, Nat.pow_succ]
    have := b.toNat_lt
    omega

theorem toLE_fromLE (bs : Bytes) : toLE bs.length (fromLE bs) = bs := by
  induction bs with
  | nil => rfl
  | cons b t ih =>
    rw [List.length_cons, toLE, fromLE, Nat.add_mul_div_left _ _ (by decide), Nat.add_mul_mod_self_left,
      Nat.div_eq_of_lt b.toNat_lt, Nat.mod_eq_of_lt b.toNat_lt, Nat.zero_add, ih, UInt8.ofNat_toNat]

theorem toLE_fromLE_take (data : Bytes) (k : Nat) (h : k ≤ data.length) :
    toLE k (fromLE (data.take k)) = data.take k := by
  have := toLE_fromLE (data.take k)
  rwa [List.length_take, Nat.min_eq_left h] at this

theorem toLE_one (n : Nat) : toLE 1 n = [UInt8.ofNat n] := by rw [toLE, toLE, UInt8.ofNat_mod_size']

theorem toLE_mod (k n : Nat) : toLE k (n % 256 ^ k) = toLE k n := by
  induction k generalizing n with
  | zero => rfl
  | succ k ih =>
    rw [toLE, toLE, ← ih (n / 256), Nat.pow_succ, Nat.mod_mul_left_div_self, Nat.mod_mul_left_mod]

theorem toLE_add (j k n : Nat) : toLE (j + k) n = toLE j n ++ toLE k (n / 256 ^ j) := by
  induction j generalizing n with
  | zero => simp [toLE]
  | succ j ih =>
    rw [Nat.succ_add, toLE, toLE, ih, Nat.pow_succ, Nat.div_div_eq_div_mul, Nat.mul_comm]; rfl

theorem toLE_append (a j k n : Nat) :
    toLE j (n / 256 ^ a) ++ toLE k (n / 256 ^ (a + j)) = toLE (j + k) (n / 256 ^ a) := by
  rw [toLE_add, Nat.div_div_eq_div_mul, Nat.pow_add]

theorem ite_ne {α} {c : Prop} [Decidable c] {a b x : α} (ha : a ≠ x) (hb : b ≠ x) : (if c then a else b) ≠ x := by
  split <;> assumption

theorem ite_eq {α} {c : Prop} [Decidable c] {x y z : α} (h : (if c then x else y) = z) :
    c ∧ x = z ∨ ¬ c ∧ y = z := by
  by_cases hc : c
  · exact .inl ⟨hc, by rwa [if_pos hc] at h⟩
  · exact .inr ⟨hc, by rwa [if_neg hc] at h⟩

/-- hex rendering used by the line protocol -/
def hexDigit (n : Nat) : Char :=
  if n < 10 then Char.ofNat (48 + n) else Char.ofNat (87 + n)

def hexByte (b : UInt8) : String :=
  String.ofList [hexDigit (b.toNat / 16), hexDigit (b.toNat % 16)]

def toHex (bs : Bytes) : String :=
  if bs.isEmpty then "-" else String.join (bs.map hexByte)

def hexVal (c : Char) : Option Nat :=
  if '0' ≤ c ∧ c ≤ '9' then some (c.toNat - 48)
  else if 'a' ≤ c ∧ c ≤ 'f' then some (c.toNat - 87)
  else if 'A' ≤ c ∧ c ≤ 'F' then some (c.toNat - 55)
  else none

def parseHexAux : List Char → Bytes → Option Bytes
  | [], acc => some acc.reverse
  | [_], _ => none
  | a :: b :: t, acc =>
    match hexVal a, hexVal b with
    | some x, some y => parseHexAux t (UInt8.ofNat (16 * x + y) :: acc)
    | _, _ => none

def parseHex (s : String) : Option Bytes :=
  if s == "-" then some [] else parseHexAux s.toList []

end Zboss
