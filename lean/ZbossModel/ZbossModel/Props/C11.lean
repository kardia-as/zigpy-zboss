import ZbossModel.Proofs.HostTrace2
import ZbossModel.Proofs.HostAck
import ZbossModel.Proofs.NcpWire
import ZbossModel.Props.C10
/-! # C11 - any request reaches the NCP intact, fragments contiguous, each awaiting its ACK

Phases `sendfrag … acked` are the transmission of a message: from taking the message lock M to
releasing it after the last fragment's ACK wait ended. -/
namespace Zboss.Host

/-- **one transmitter, every history**: at most one request is inside the transmission of its message -
    the fragments of one message cannot be interleaved with data frames of another -/
theorem C11_one_transmitter (evs : List Ev) (r1 r2 : Req) (h1 : r1 ∈ (runEvents {} evs).1.reqs)
    (h2 : r2 ∈ (runEvents {} evs).1.reqs) (t1 : inTransmit r1.phase = true) (t2 : inTransmit r2.phase = true) :
    r1 = r2 :=
  same_of_lockPhase (inv2_reachable evs) .M h1 h2 t1 t2

/-- whoever awaits an acknowledgement is inside its own message: the transmit lock is only taken under the
    message lock -/
theorem C11_ack_wait_inside_message (p : Phase) (h : ackPhase p = true) : inTransmit p = true :=
  inTransmit_of_ackPhase h

/-- at most one request awaits an acknowledgement (it is the holder of the transmit lock) -/
theorem C11_one_awaiting_ack (evs : List Ev) (r1 r2 : Req) (h1 : r1 ∈ (runEvents {} evs).1.reqs)
    (h2 : r2 ∈ (runEvents {} evs).1.reqs) (t1 : ackPhase r1.phase = true) (t2 : ackPhase r2.phase = true) :
    r1 = r2 :=
  same_of_lockPhase (inv2_reachable evs) .T h1 h2 t1 t2

/-- task steps write nothing but data frames and report nothing but completions; they never touch the
    sequence number, the clock, the open / transport flags -/
theorem C11_task_steps_frame (fuel : Nat) (st : St) : Frame st (settle fuel st) := frame_settle fuel st

/-- a fragment goes on the wire only from phase `waitT`, i.e. by the request that holds the message lock, and
    the request then waits for the ACK with a deadline one ACK timeout ahead -/
theorem C11_write_step (st : St) (i : Nat) (r : Req) (fuel : Nat) (hg : getReq st i = some r) (hp : r.phase = .waitT)
    (hok : (acquire st .T i).2 = true) (htr : (acquire st .T i).1.transport = true) :
    (runReq (fuel + 1) st i).out = st.out ++ [.write i r.frag st.pack r.nfrags] := by
  rw [runReq]
  simp only [hg, hp]
  rw [acquire_eta st .T i]
  simp only [hok, htr, Bool.not_true, Bool.false_eq_true, if_false, if_true]
  -- taking the lock emits nothing and leaves the sequence number alone
  show (acquire st .T i).1.out ++ _ = _
  rw [out_acquire, (frame_acquire st .T i).pack]

/-- **contiguous, every history (whole-trace form)**: the complete output log of every event sequence - any
    number of concurrent requests of any size, blocking or not, any ACK / response / timer / cancellation / close
    / loss timing, any number of `close()` / `connect()` cycles on the same object (`Proofs/HostTrace2.lean`) - is
    accepted by the message monitor `monStep`: a fragment numbered 0 is written only when no
    message is open, a fragment numbered `f > 0` only when the open message is this request's and `f` is the
    next fragment; a message stays open until its last fragment is written or its request ends -/
theorem C11_trace (evs : List Ev) : ∃ m, monRun none (runEvents {} evs).2.flatten = some m := mon_accepts_all evs

/-- the same without the monitor: whenever fragment `f > 0` of request `i` is written, the last data frame
    written before it - in the whole history - is fragment `f - 1` of the same request, and the request did not
    end in between.  Hence the fragments of one message are never interleaved with data frames of another -/
theorem C11_contiguous (evs : List Ev) (pre post : List Out) (i f s n : Nat) (hf : 0 < f)
    (hlog : (runEvents {} evs).2.flatten = pre ++ [.write i f s n] ++ post) :
    ∃ pre1 mid s', pre = pre1 ++ [.write i (f - 1) s' n] ++ mid ∧
      ∀ o ∈ mid, isWrite o = false ∧ isDoneOf i o = false :=
  contiguous_of_accepts _ pre post i f s n hf (C11_trace evs) hlog

theorem after_last {α : Type} (p : α → Bool) (a b : List α) (w : α) (hw : p w = true) (hb : ∀ x ∈ b, p x = false) :
    (a ++ [w] ++ b).reverse.takeWhile (fun x => !p x) = b.reverse := by
  rw [List.reverse_append, List.reverse_append, List.takeWhile_append_of_pos (by simpa using hb)]
  simp [hw]

/-- a message is abandoned for good: once a request has ended, none of its fragments `f > 0` is ever written -/
theorem C11_no_fragment_after_end (evs : List Ev) (pre post : List Out) (i f s n : Nat) (hf : 0 < f) (o : Outcome)
    (hlog : (runEvents {} evs).2.flatten = pre ++ [.write i f s n] ++ post) (s' : Nat) (a b : List Out)
    (hpre : pre = a ++ [.write i (f - 1) s' n] ++ b) (hb : ∀ x ∈ b, isWrite x = false) : Out.done i o ∉ b := by
  obtain ⟨pre1, mid, s'', he, hfree⟩ := C11_contiguous evs pre post i f s n hf hlog
  -- both `b` and `mid` are what follows the last data frame of `pre`
  have hmid : b = mid := by
    apply List.reverse_inj.mp
    rw [← after_last isWrite a b (.write i (f - 1) s' n) rfl hb, ← hpre, he]
    exact after_last isWrite pre1 mid (.write i (f - 1) s'' n) rfl fun x hx => (hfree x hx).1
  intro hmem
  rw [hmid] at hmem
  simpa [isDoneOf] using (hfree _ hmem).2

/-- the write a request in `waitT` would *skip* once the transport has gone (`uart.send` returns at once without a
    transport) never happens on a reachable history: in every state without a transport nobody is in `waitT` -/
theorem C11_no_write_is_skipped (evs : List Ev) (h : (runEvents {} evs).1.transport = false) :
    ∀ r ∈ (runEvents {} evs).1.reqs, r.phase ≠ .waitT := by
  obtain ⟨_, _, hb⟩ := cj_reachable evs
  exact fun r hr => hb.2 h (core r) (List.mem_map_of_mem hr)

/-- **every scheduling order**: `MReach` closes the initial state under the immediate effect of any event and
    under single micro-steps of *any* request task in *any* order (ready or not, repeated at will).  In every
    such state - not only at the quiescent points of the FIFO run - at most one request is inside the
    transmission of its message, and everything written so far is accepted by the message monitor -/
theorem C11_any_schedule (hist : List Out) (st : St) (h : MReach hist st) :
    (∀ r1 ∈ st.reqs, ∀ r2 ∈ st.reqs, inTransmit r1.phase = true → inTransmit r2.phase = true → r1 = r2) ∧
    (st.gen = 0 → ∃ m, monRun none (hist ++ st.out) = some m) := by
  obtain ⟨⟨hinv, hmon⟩, _⟩ := mreach_inv hist st h
  exact ⟨fun _ h1 _ h2 => same_of_lockPhase hinv .M h1 h2, fun hg => (hmon hg).imp fun _ hm => hm.1⟩

/-- the deterministic machine (`step`: FIFO ready queue, each task run until it blocks) is one of those
    schedules, so `C11_any_schedule` is not about an empty set of states -/
theorem C11_run_is_a_schedule (evs : List Ev) :
    ∃ hist, (runEvents {} evs).2.flatten = hist ++ (runEvents {} evs).1.out ∧ MReach hist (runEvents {} evs).1 :=
  mreach_run evs

/-- **each fragment only after the previous one was acknowledged or its wait expired - every schedule**: in any
    state the event loop can be in (`MReach`), while some request is in its acknowledgement wait (frame written,
    ACK not yet processed) no task micro-step of any request writes a data frame -/
theorem C11_no_write_while_ack_pending (hist : List Out) (st : St) (h : MReach hist st) (r : Req) (hr : r ∈ st.reqs)
    (ha : ackPhase r.phase = true) (i : Nat) : writes (runReq 1 st i).out = writes st.out :=
  no_write_micro st i (mreach_inv hist st h).1.1 r hr ha

/-- … and at event granularity, every history: if request `r` awaits an acknowledgement and the next event is
    neither the matching ACK, nor the cancellation of `r`, nor a timer expiry that reaches `r`'s ACK deadline
    (`KeepsWaiting`), then the whole step writes no data frame and `r` is still waiting afterwards.  So between
    two data frames on the wire lies a matching ACK, an expired ACK wait or the cancellation of the sender. -/
theorem C11_each_after_ack_or_expiry (evs : List Ev) (e : Ev) (r : Req) (hr : r ∈ (runEvents {} evs).1.reqs)
    (hp : r.phase = .waitAck) (hk : KeepsWaiting (runEvents {} evs).1 r.id e) :
    writes (step (runEvents {} evs).1 e).out = [] ∧
    ∃ r' ∈ (step (runEvents {} evs).1 e).reqs, r'.id = r.id ∧ r'.phase = .waitAck := by
  have hw : AckW r.id (view (runEvents {} evs).1) := ⟨core r, List.mem_map.mpr ⟨r, hr, rfl⟩, rfl, hp⟩
  obtain ⟨h1, c, hc, hj, hcp⟩ := no_write_while_waiting _ e r.id (inv2_reachable evs) hw hk
  obtain ⟨r', hr', rfl⟩ := List.mem_map.mp hc
  exact ⟨h1, r', hr', hj, hcp⟩

/-! ## non-vacuity: request 1 awaits the ACK of its first fragment; a wrong ACK, a response, a second request,
    a close: nothing is written; the matching ACK releases the next fragment -/
example : let st := (runEvents {} [.start 1 4 false 2 3013]).1
    (∃ r ∈ st.reqs, r.id = 1 ∧ r.phase = .waitAck) ∧
    (step st (.rxAck 1)).out = [] ∧ (step st (.start 2 4 false 1 5026)).out = [] ∧
    (step st (.rxRsp 4)).out = [.wack] ∧ (step st (.rxAck 0)).out = [.write 1 1 1 2] := by decide +kernel

/-! ## non-vacuity: a three-fragment request cancelled after its second fragment, then a two-fragment request:
    the log is accepted, the second message starts only after the first has ended -/
example : ((runEvents {} [.start 1 4 false 3 3013, .start 2 4 false 2 5026, .rxAck 0, .cancel 1, .rxAck 1, .rxAck 2]).2.flatten) =
    [.write 1 0 0 3, .write 1 1 1 3, .done 1 .cancelled, .write 2 0 1 2, .write 2 1 2 2] := by decide +kernel

/-! ## non-vacuity across a reconnect: a three-fragment request is interrupted by `close()` after its first fragment,
    `connect()` follows while it sits in its acknowledgement wait, a second request is issued; the interrupted request's
    fragments 1 and 2 go out on the new connection under the message lock, then the new request - the monitor accepts -/
example : monRun none (runEvents {} [.start 1 5 false 3 300013, .close, .connect, .start 2 1 false 2 500026, .tick, .tick,
    .tick, .rxAck 0]).2.flatten = some none := by decide +kernel

/-! ## non-vacuity: two concurrent two-fragment requests - the D9 scenario of the pinned tree: the wire
    order is first(1), last(1), first(2), last(2) -/
example : ((runEvents {} [.start 1 4 false 2 3013, .start 2 4 false 2 5026, .rxAck 0, .rxAck 1, .rxAck 2, .rxAck 3]).2.map
    fun l => l.filter isWD) =
    [[.write 1 0 0 2], [], [.write 1 1 1 2], [.write 2 0 2 2], [.write 2 1 3 2], []] := by decide +kernel

end Zboss.Host

/-! # the first sentence of C11 at the wire: what a protocol-following NCP receives -/
namespace Zboss.Reasm
open Zboss.Rx Zboss

/-- **an NCP that follows the link protocol receives exactly the request**: the host cuts a message that does not fit
    one frame into fragments, stamps each with whatever sequence number is current and writes them - by `C11_trace`
    with no data frame of another message in between, but possibly with acknowledgement frames for incoming traffic
    interleaved.  A peer that checks every signature, type, length and checksum (`_extract_frame`), ignores
    acknowledgements, and concatenates first..last fragments (`frame_received`) hands up exactly the fragments and
    reassembles exactly the command header and parameter bytes of the request - under every chunking of the byte
    stream and whatever stale fragments of an abandoned message were pending. -/
theorem C11_ncp_sees_request (hnd : Frame → Bool) (tr : Bool) (h : HLH) (hh : h ≠ 0#32) (data : Bytes)
    (hbig : Gen.bodyMax < (HLPacket.mk (some h) data).body.length) (ws : List Frame)
    (hst : Stamped (Frag.fragments (Frag.whole ⟨some h, data⟩) ⟨some h, data⟩) ws)
    (ws' : List Frame) (hwa : WithAcks ws ws')
    (chunks : List Bytes) (hchunks : chunks.flatten = (ws'.map Frame.serialize).flatten) (pending : List Frame) :
    deliveredOf (session hnd { transport := tr } chunks).2 = ws ∧
    (feedFrames pending ws).1 = [] ∧
    (feedFrames pending ws).2.getLast? = some (Outcome.msg ⟨some h, data⟩) := by
  obtain ⟨hdec, hfil⟩ := withAcks ws ws' hwa (stamped_wireOK hst (fragments_wireOK h hh data hbig))
  exact ⟨by rw [session_decodes hnd _ rfl ws' hdec chunks hchunks, hfil], reassembly_stamped h hh data hbig ws hst pending⟩

/-- … and a request that fits one frame: the frame built by `to_frame`, stamped with whatever number is current and
    written - possibly with acknowledgement frames around it - is handed up as it is, and its command header and
    parameter bytes are passed on unchanged, whatever stale fragments were pending -/
theorem C11_ncp_sees_small_request (hnd : Frame → Bool) (tr : Bool) (h : HLH) (hh : h ≠ 0#32) (data : Bytes)
    (hsmall : (HLPacket.mk (some h) data).serialize.length + 5 ≤ 65535) (s : Fin 4)
    (ws' : List Frame) (hwa : WithAcks [Frame.stamp s.val (Frag.whole ⟨some h, data⟩)] ws')
    (chunks : List Bytes) (hchunks : chunks.flatten = (ws'.map Frame.serialize).flatten) (pending : List Frame) :
    deliveredOf (session hnd { transport := tr } chunks).2 = [Frame.stamp s.val (Frag.whole ⟨some h, data⟩)] ∧
    frameReceived pending (Frame.stamp s.val (Frag.whole ⟨some h, data⟩)) = ([], .msg ⟨some h, data⟩) := by
  obtain ⟨hdec, hfil⟩ := withAcks _ ws' hwa
    (stamped_wireOK (.cons s _ .nil) fun f hf => by rw [List.mem_singleton.mp hf]; exact wireOK_whole h hh data hsmall)
  have hfl := stamp_isFirst_isLast_isAck 0xC0 s (Frag.whole ⟨some h, data⟩)
    (by simp [Frag.whole, Frame.mkData]; decide) (by simp)
  exact ⟨by rw [session_decodes hnd _ rfl ws' hdec chunks hchunks, hfil],
    C10_restart pending _ ⟨some h, data⟩ rfl ⟨by rw [hfl.1]; decide, by rw [hfl.2.1]; decide⟩⟩

/-! ## non-vacuity: the hypotheses hold for every message - stamp the fragments (any numbers), put an ACK in between -/
example (f g : Frame) : WithAcks [f, g] [f, Frame.ack 2 false, g, Frame.ack 0 true] :=
  .frame f (.ack 2 false (.frame g (.ack 0 true .nil)))

end Zboss.Reasm
