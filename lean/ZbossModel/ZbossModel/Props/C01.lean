import ZbossModel.Proofs.RxLog
import ZbossModel.Proofs.RxLocated
/-! # C01 - serial receive decoding is exact and independent of chunk boundaries -/
namespace Zboss.Rx
open Gen

/-- the code's find-based resynchronisation (incl. the kept trailing 0xDE) is the canonical skip -/
theorem C01_resync (b : Bytes) : resyncPy b = skip b.tail := resyncPy_eq b

/-- the frame parser reaches its verdict from a prefix: once it is not "too short", further bytes do
    not change verdict, frame or consumed length -/
theorem C01_verdict_stable (a b : Bytes) (h : tryFrame a ≠ .short) : tryFrame (a ++ b) = tryFrame a :=
  tryFrame_append a b h

/-- every accepted frame consumes at least a header and at most the buffer: the loop terminates -/
theorem C01_progress (a : Bytes) (f : Frame) (n : Nat) (h : tryFrame a = .ok f n) : 7 ≤ n ∧ n ≤ a.length :=
  tryFrame_ok_le a f n h

/-- chunk independence **in every link state**: whatever the sequence numbers are and whether or not a sender waits for an
    acknowledgement, a receiver with an empty buffer hands up the frames of the left-to-right parse of what it is fed -/
theorem C01_chunking_any_state (h : Frame → Bool) (st : RxState) (hb : st.buf = []) (chunks : List Bytes) :
    deliveredOf (session h st chunks).2 =
      deliveredOf ((run tryFrame chunks.flatten).1.flatMap (outsOf st.transport)) := by
  rw [session_delivered_empty h st hb, deliveredOf_outs]

/-- **chunk independence**: however the stream is cut into reads (and whatever the handler does), the
    frames handed to the upper layer are those of the left-to-right parse of the whole stream -/
theorem C01_chunking (h : Frame → Bool) (tr : Bool) (chunks : List Bytes) :
    deliveredOf (session h { transport := tr } chunks).2 =
      deliveredOf ((run tryFrame chunks.flatten).1.flatMap (outsOf tr)) :=
  C01_chunking_any_state h { transport := tr } rfl chunks

/-- ... so two receivers in *different* link states, fed the same stream cut in different ways, hand up the same frames
    (the writes differ only in whether there is a transport to write to) -/
theorem C01_any_two_states (h1 h2 : Frame → Bool) (s1 s2 : RxState) (hb1 : s1.buf = []) (hb2 : s2.buf = [])
    (c1 c2 : List Bytes) (hsame : c1.flatten = c2.flatten) :
    deliveredOf (session h1 s1 c1).2 = deliveredOf (session h2 s2 c2).2 := by
  rw [session_delivered_empty h1 s1 hb1, session_delivered_empty h2 s2 hb2, hsame]

/-- two chunkings of the same stream deliver the same frames in the same order -/
theorem C01_any_two_chunkings (h1 h2 : Frame → Bool) (tr : Bool) (c1 c2 : List Bytes) (hsame : c1.flatten = c2.flatten) :
    deliveredOf (session h1 { transport := tr } c1).2 = deliveredOf (session h2 { transport := tr } c2).2 :=
  C01_any_two_states h1 h2 _ _ rfl rfl c1 c2 hsame

/-- **promptness, prefix form**: after *every* read the cumulative deliveries are exactly those of the
    parse of the bytes received so far - nothing is withheld that the prefix already determines -/
theorem C01_prefix (h : Frame → Bool) (tr : Bool) (chunks : List Bytes) (k : Nat) :
    deliveredOf (session h { transport := tr } (chunks.take k)).2 =
      deliveredOf ((run tryFrame (chunks.take k).flatten).1.flatMap (outsOf tr)) :=
  C01_chunking h tr (chunks.take k)

/-- the pending buffer is what the whole-stream parse leaves, up to already-rejected garbage -/
theorem C01_pending (h : Frame → Bool) (tr : Bool) (chunks : List Bytes) :
    skip (session h { transport := tr } chunks).1.buf = skip (run tryFrame chunks.flatten).2 :=
  (session_log h { transport := tr } rfl chunks).2

/-! ## non-vacuity: a cut inside the start marker after pending noise (the D4 case) -/
example : deliveredOf (session (fun _ => false) { transport := true }
      [[1, 2, 3, 4, 5, 6, 7, 0xDE], [0xAD, 0x0c, 0x00, 0x06, 0xc8, 0xe9, 0x31, 0xa4, 0x00, 0x00, 0x02, 0x00, 0x01]]).2
      ≠ [] := by
  rw [C01_chunking]; decide +kernel

/-- **each once, in stream order, at a position where the frame is well-formed**: the frames of the whole-stream
    parse come with stream positions; positions increase, frames do not overlap, and at its position every
    frame is accepted by the single-frame parser (`C01_accepted_is_wellformed` says what that means) -/
theorem C01_sound (s : Bytes) :
    (located tryFrame s).map (·.2.1) = (run tryFrame s).1 ∧ Ordered 0 (located tryFrame s) ∧
    ∀ e ∈ located tryFrame s, e.1 + e.2.2 ≤ s.length ∧ tryFrame (s.drop e.1) = .ok e.2.1 e.2.2 :=
  ⟨located_frames zbossScanner s, located_sound zbossScanner s⟩

/-- **accepted ⇒ well-formed**: start marker, NCP frame type, valid header checksum, a declared length of at
    least 5 that fits the bytes present; the frame consumes at most its declared extent -/
theorem C01_accepted_is_wellformed (b : Bytes) (f : Frame) (n : Nat) (h : tryFrame b = .ok f n) :
    b.take 2 = [0xDE, 0xAD] ∧ (b.getD 4 0).toNat = 6 ∧ (Crc.crc8B (slice b 2 6)).toNat = (b.getD 6 0).toNat ∧
    5 ≤ fromLE (slice b 2 4) ∧ fromLE (slice b 2 4) + 2 ≤ b.length ∧ 7 ≤ n ∧ n ≤ fromLE (slice b 2 4) + 2 := by
  obtain ⟨e, he, hn, hle, h7⟩ := extent_ok b f n h
  obtain ⟨hh, rfl, _, _⟩ := extent_eq he
  obtain ⟨_, c1, c2, c3, c4⟩ := (headerOk_iff b).mp hh
  exact ⟨c1, c2, c3, c4, hle, h7, hn⟩

/-- a data frame (first fragment, continuation or complete) is accepted only with a valid body checksum over
    exactly the declared body, and then consumes exactly its declared extent -/
theorem C01_accepted_body_crc (b : Bytes) (f : Frame) (n : Nat) (h : tryFrame b = .ok f n) (hdata : isAck f = false) :
    2 ≤ ((b.drop 7).take (fromLE (slice b 2 4) - 5)).length ∧
    fromLE (((b.drop 7).take (fromLE (slice b 2 4) - 5)).take 2) =
      Crc.crc16B (((b.drop 7).take (fromLE (slice b 2 4) - 5)).drop 2) ∧
    n = fromLE (slice b 2 4) + 2 := by
  obtain ⟨e, he, hle, hb, ha⟩ := tryFrame_ok h
  obtain ⟨_, rfl, h7e, _⟩ := extent_eq he
  have := (accept_ok ha).2.2
  simp only [hdata, Bool.false_eq_true, if_false,
    show fromLE (slice b 2 4) + 2 - 7 = fromLE (slice b 2 4) - 5 from Nat.add_sub_add_right _ 2 5] at this hb
  exact ⟨this.2.1, this.2.2, this.1.trans hb⟩

/-- **complete**: a frame the parser accepts at stream position `i` - fully arrived - is among the frames of the
    parse, unless an earlier position carries a checksum-valid header whose declared extent reaches over `i` -/
theorem C01_complete (s : Bytes) (i n : Nat) (f : Frame) (hok : tryFrame (s.drop i) = .ok f n)
    (hfree : ∀ j, j < i → ∀ e, extent (s.drop j) = some e → j + e ≤ i) : (i, f, n) ∈ located tryFrame s :=
  located_complete zbossScanner zbossExtent s i n f hok hfree

/-- prompt, **from every link state** with an empty buffer -/
theorem C01_complete_prompt_any_state (h : Frame → Bool) (st : RxState) (hb : st.buf = []) (chunks : List Bytes) (i n : Nat)
    (f : Frame) (p : HLPacket)
    (hok : tryFrame (chunks.flatten.drop i) = .ok f n) (hd : isAck f = false) (hp : f.hl = some p)
    (hfree : ∀ j, j < i → ∀ e, extent (chunks.flatten.drop j) = some e → j + e ≤ i) :
    f ∈ deliveredOf (session h st chunks).2 :=
  session_complete h st (by rw [hb]; rfl) chunks i n f (by rwa [hb]) hd (by rwa [hb])

/-- **prompt**: as soon as the last byte of such a data frame has arrived - whatever the reads were cut into,
    whatever the handler did - the frame has been handed to the upper layer -/
theorem C01_complete_prompt (h : Frame → Bool) (tr : Bool) (chunks : List Bytes) (i n : Nat) (f : Frame) (p : HLPacket)
    (hok : tryFrame (chunks.flatten.drop i) = .ok f n) (hd : isAck f = false) (hp : f.hl = some p)
    (hfree : ∀ j, j < i → ∀ e, extent (chunks.flatten.drop j) = some e → j + e ≤ i) :
    f ∈ deliveredOf (session h { transport := tr } chunks).2 :=
  C01_complete_prompt_any_state h { transport := tr } rfl chunks i n f p hok hd hp hfree

end Zboss.Rx
