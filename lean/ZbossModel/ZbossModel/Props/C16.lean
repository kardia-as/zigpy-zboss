import ZbossModel.Proofs.Wire
import ZbossModel.Proofs.WireSound
import ZbossModel.CStruct
import ZbossModel.Proofs.CStructRT
/-! # C16 - wire types are self-delimiting, strict on short input, and invert exactly -/
namespace Zboss.Wire

/-- scalars (integers of every width and signedness, fixed-size blobs): exact inverse, self-delimiting -/
theorem C16_scalar_inverse (t : ST) (v : SV) (b r : Bytes) (h : encS t v = some b) :
    decS t (b ++ r) = .ok (v, r) := decS_encS t v b r h

/-- length-prefixed bytes, count-prefixed lists of records, simple descriptors, scalars: decoding
    `encoding ++ arbitrary further bytes` returns the value and exactly those bytes -/
theorem C16_inverse (w : WT) (v : Val) (b r : Bytes) (hg : w.isGreedy = false) (h : encW w v = some b) :
    decW w (b ++ r) = .ok (v, r) := decW_encW w v b r hg h

/-- greedy lists consume everything by design and invert exactly (records are at least one byte wide) -/
theorem C16_greedy_inverse (ts : List ST) (hpos : 0 < recSize ts) (rs : List (List SV)) (b : Bytes)
    (h : encW (.greedy ts) (.rows rs) = some b) : decW (.greedy ts) b = .ok (.rows rs, []) :=
  decW_encW_greedy ts hpos rs b h

/-- **the other direction of "exact inverses"**: whatever bytes a decoder accepts, if the decoded value is one the
    encoder accepts then its encoding is exactly the bytes consumed (every parameter type, greedy lists included
    when their records are not empty) - a decoder never skips, invents or reinterprets a byte -/
theorem C16_decode_sound (w : WT) (data : Bytes) (val : Val) (rest b : Bytes)
    (hgr : ∀ ts, w = .greedy ts → 0 < recSize ts)
    (h : decW w data = .ok (val, rest)) (he : encW w val = some b) : data = b ++ rest :=
  decW_sound w data val rest b hgr h he

/-- the caveat is real: a 255-byte string behind a one-byte length is decoded but refused by the encoder -/
example : (match decW (.lvBytes 1) (255 :: List.replicate 255 0) with | .ok _ => true | .error _ => false) = true ∧
    encW (.lvBytes 1) (.bytes (List.replicate 255 0)) = none := by decide +kernel

/-- an encoding cut short at *any* point raises a value error - never a truncated value -/
theorem C16_truncated (w : WT) (v : Val) (b : Bytes) (hg : w.isGreedy = false) (h : encW w v = some b)
    (k : Nat) (hk : k < b.length) : decW w (b.take k) = .error .valueError := decW_truncated w v b hg h k hk

/-- a decoder never fails with anything but a value error -/
theorem C16_only_value_errors (w : WT) (data : Bytes) (e : Err) (h : decW w data = .error e) : e = .valueError :=
  decW_error_kind w data e h

/-- the encoding of a list of `n` records of a given layout is `n` times the record size -/
theorem C16_rows_size (ts : List ST) (rs : List (List SV)) (b : Bytes) (h : encRows ts rs = some b) :
    b.length = rs.length * recSize ts := encRows_length ts rs b h

end Zboss.Wire

namespace Zboss.CStruct
open Wire

/-- **natural alignment**: for every struct definition (any field list, any nesting) each field starts at a
    multiple of its own alignment -/
theorem C16_offsets_aligned (al : Bool) (fs : List CTy) (hwf : wfList fs = true) (off : Nat) :
    ∀ i (hi : i < fs.length), ((offsets al fs off).getD i 0) % ((fs.get ⟨i, hi⟩).align al) = 0 := by
  intro i hi
  rw [offsets_getD al fs off i hi]
  rw [wfList_eq_all] at hwf
  exact pad_aligned _ _ (align_pos al _ (List.all_eq_true.mp hwf _ (List.get_mem fs ⟨i, hi⟩)))

/-- ... and the struct's size is a multiple of its largest field alignment -/
theorem C16_size_aligned (al : Bool) (fs : List CTy) :
    ((CTy.struct fs).size al) % (alignList al fs) = 0 := by
  simp only [CTy.size]
  exact pad_aligned _ _ (alignList_pos al fs)

/-- **packed**: without alignment there is no padding at all: every field starts where the previous one
    ended and the size is the sum of the field sizes -/
theorem C16_packed (fs : List CTy) (off : Nat) :
    (CTy.struct fs).size false = (fs.map (CTy.size false)).sum ∧
    ∀ i, i < fs.length → (offsets false fs off).getD i 0 = off + ((fs.take i).map (CTy.size false)).sum := by
  constructor
  · simp only [CTy.size, layoutEnd_packed, alignList_packed, pad_one]; omega
  · intro i hi
    rw [offsets_getD false fs off i hi, align_packed, pad_one, layoutEnd_packed, Nat.add_zero]

/-- padding never exceeds alignment - 1 and alignments are powers of the field sizes present: the
    aligned size is bounded by packed size plus (alignment - 1) per field and at the end -/
theorem C16_padding_small (al : Bool) (f : CTy) (hwf : f.WF = true) (off : Nat) :
    pad off (f.align al) < f.align al := Nat.mod_lt _ (align_pos al f hwf)

/-! ## NVRAM datasets parsed from the NCP's read layout contain exactly the stored records -/

theorem C16_nvram_addrmap (hdr rec : List ST) (entryIdx : Nat) (hvals : List SV) (rs : List (List SV))
    (hb cb r : Bytes) (hh : encRec hdr hvals = some hb) (hc : encRows rec rs = some cb)
    (hcount : natOf (hvals.getD entryIdx (.num 0)) = rs.length) :
    decNwkAddrMap hdr rec entryIdx (hb ++ cb ++ r) = .ok (rs, r) := by
  simp only [decNwkAddrMap, List.append_assoc, decRec_encRec hdr hvals hb (cb ++ r) hh, hcount]
  exact decRowsN_encRows rec rs cb r hc

theorem C16_nvram_apskeys (rec : List ST) (hpos : 0 < recSize rec) (rs : List (List SV)) (cb skip r : Bytes)
    (hc : encRows rec rs = some cb) (hskip : skip.length = 4) (hfit : rs.length * recSize rec + 4 < 65536) :
    decApsKeys rec (toLE 2 (rs.length * recSize rec + 4) ++ skip ++ cb ++ r) = .ok (rs, r) := by
  have henc := encS_uint 2 (rs.length * recSize rec + 4) (by omega)
  have hd := decS_encS _ _ _ (skip ++ cb ++ r) henc
  simp only [decApsKeys, List.append_assoc] at hd ⊢
  rw [hd]
  simp only [natOf, Int.toNat_natCast, Int.ofNat_eq_natCast]
  have h1 : (rs.length * recSize rec + 4 - 4) / recSize rec = rs.length := by
    rw [Nat.add_sub_cancel]; exact Nat.mul_div_cancel _ hpos
  have h2 : (skip ++ (cb ++ r)).drop 4 = cb ++ r := List.drop_left' hskip
  rw [h1, h2]
  exact decRowsN_encRows rec rs cb r hc

/-! ## non-vacuity: a nested aligned struct { u8; { u8; u32 }; u16 } has offsets 0, 4, 12 and size 16 -/
example : offsets true [.int 1 false, .struct [.int 1 false, .int 4 false], .int 2 false] 0 = [0, 4, 12] ∧
    (CTy.struct [.int 1 false, .struct [.int 1 false, .int 4 false], .int 2 false]).size true = 16 ∧
    (CTy.struct [.int 1 false, .struct [.int 1 false, .int 4 false], .int 2 false]).size false = 8 := by decide

/-- **C structs invert exactly** (aligned or packed, nested to any depth): the serialization has the struct's
    declared size, and deserializing it - followed by any further bytes - returns the value and exactly those
    bytes; inner and final padding is skipped, never interpreted -/
theorem C16_cstruct_roundtrip (al : Bool) (t : CTy) (v : CVal) (b r : Bytes) (h : encC al t v = some b) :
    b.length = t.size al ∧ decC al t (b ++ r) = .ok (v, r) := encC_roundtrip al t v b r h

/-- non-vacuity: `{u8; {u8; u32}; u16}` aligned: 1 + 3 pad + (1 + 3 pad + 4) + 2 + 2 final pad = 16 bytes -/
example : (encC true (.struct [.int 1 false, .struct [.int 1 false, .int 4 false], .int 2 false])
    (.struct [.num 1, .struct [.num 2, .num 3], .num 4])).map List.length = some 16 := by decide +kernel

end Zboss.CStruct
