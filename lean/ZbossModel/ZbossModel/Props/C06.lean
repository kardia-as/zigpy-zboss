import ZbossModel.Proofs.RxLog
import ZbossModel.Proofs.Frame
import ZbossModel.Generated.Exprs
/-! # C06 - each accepted data frame is acknowledged once, with its own sequence number -/
namespace Zboss.Rx
open Gen

/-- the log shape of `C06_log_shape` in **every link state**: whatever the sequence numbers and the pending acknowledgement
    wait are, a receiver whose buffer is empty produces exactly the log of the frames the scanner accepts -/
theorem C06_log_shape_any_state (h : Frame → Bool) (st : RxState) (hb : st.buf = []) (chunks : List Bytes) :
    (session h st chunks).2 = (run tryFrame chunks.flatten).1.flatMap (outsOf st.transport) := by
  rw [(session_log h st (by rw [hb]; rfl) chunks).1, hb, List.nil_append]

/-- **log shape**: for every stream, every chunking and every handler behaviour, the ordered log of
    transport writes and hand-ups is the concatenation, over the frames the scanner accepts in stream
    order, of: nothing for an ACK frame; `[write (ACK of the frame's own sequence number), deliver frame]`
    for a data frame.  Rejected input contributes nothing. -/
theorem C06_log_shape (h : Frame → Bool) (tr : Bool) (chunks : List Bytes) :
    (session h { transport := tr } chunks).2 =
      (run tryFrame chunks.flatten).1.flatMap (outsOf tr) :=
  C06_log_shape_any_state h { transport := tr } rfl chunks

/-- `ZbossNcpProtocol.close()`: the buffer is emptied, both sequence numbers go back to 0, the transport is dropped -/
def RxState.closed (st : RxState) : RxState := { st with buf := [], ackSeq := 0, packSeq := 0, transport := false }
/-- `connection_made(transport)` -/
def RxState.opened (st : RxState) : RxState := { st with transport := true }

/-- **the port closed and opened again**: whatever the previous connection left behind - sequence numbers, a pending
    acknowledgement wait, the beginning of a frame in the buffer - after `close()` and `connection_made()` on the same
    object the receiver's log is that of a fresh receiver: every accepted data frame is acknowledged with its own number
    and handed up; nothing of the previous connection's acknowledgements survives -/
theorem C06_reopened_port (h : Frame → Bool) (st : RxState) (chunks : List Bytes) :
    (session h st.closed.opened chunks).2 = (session h { transport := true } chunks).2 := by
  rw [C06_log_shape_any_state h st.closed.opened rfl, C06_log_shape]
  rfl

/-- ... and while the port is closed nothing is written: accepted data frames are still handed up, without a write -/
theorem C06_closed_port_writes_nothing (h : Frame → Bool) (st : RxState) (chunks : List Bytes) :
    ∀ o ∈ (session h st.closed chunks).2, ∃ f, o = Out.deliver f := by
  rw [C06_log_shape_any_state h st.closed rfl]
  intro o ho
  obtain ⟨f, _, hf⟩ := List.mem_flatMap.mp ho
  cases ha : isAck f <;> cases hh : f.hl <;> simp [outsOf, RxState.closed, ha, hh] at hf
  exact ⟨f, hf⟩

/-- non-vacuity: a link state with both numbers advanced, a wait pending and half a signature buffered; closed and opened
    again it logs the ACK and the hand-up of the data frame that arrives, like a fresh receiver -/
example : (session (fun _ => false) (RxState.opened (RxState.closed { buf := [0xDE], packSeq := 2, ackSeq := 3, hasEvent := true }))
      [[0xDE, 0xAD, 0x0c, 0x00, 0x06, 0xc8, 0xe9, 0x31, 0xa4, 0x00, 0x00, 0x02, 0x00, 0x01]]).2.length = 2 := by
  rw [C06_reopened_port, C06_log_shape]; decide +kernel

/-- the handler's failures change nothing at all (they are caught per frame) -/
theorem C06_handler_irrelevant (h1 h2 : Frame → Bool) (st : RxState) (chunks : List Bytes) :
    session h1 st chunks = session h2 st chunks := by
  simp only [session, dataReceived_handler h1 h2]

/-- the sequence number echoed is one of 0..3, so the acknowledgement written is one of the
    well-formed ACK frames of `C05_ack` -/
theorem C06_ack_wellformed (f : Frame) (r : Bytes) :
    seqOf f < 4 ∧
    Frame.deserialize ((Frame.ack (seqOf f) false).serialize ++ r) = .ok (Frame.ack (seqOf f) false, r) := by
  have hlt : seqOf f < 4 := by
    rw [seqOf, Nat.shiftRight_eq_div_pow]
    exact Nat.div_lt_of_lt_mul (Nat.lt_of_le_of_lt Nat.and_le_right (by decide))
  exact ⟨hlt, (ack_roundtrip (seqOf f) false r).2⟩

/-- per accepted data frame: exactly one write, before the hand-up; per ACK frame: nothing -/
theorem C06_per_frame (f : Frame) (p : HLPacket) (hp : f.hl = some p) :
    outsOf true f = (if isAck f then [] else [Out.write (Frame.ack (seqOf f) false).serialize, Out.deliver f]) := by
  unfold outsOf; split <;> simp [hp]

/-! ## non-vacuity: a concrete stream with garbage, a data frame (seq 2) and an ACK -/
example : (session (fun _ => true) { transport := true }
      [[0x00, 0xDE], [0xDE, 0xAD, 0x0c, 0x00, 0x06, 0xc8, 0xe9, 0x31, 0xa4, 0x00, 0x00, 0x02],
       [0x00, 0x01, 0xDE, 0xAD, 0x05, 0x00, 0x06, 0x11, 0xc0]]).2.length = 2 := by
  rw [C06_log_shape]; decide +kernel

/-- **source tie (translator 4)**: how the receiver takes the sequence number out of a data frame's flags and
    how `Frame.ack` puts it into the acknowledgement - translated from the Python ast on every run - are the model's -/
theorem C06_source_exprs (seq flags : Nat) (hs : seq < 4) (hf : flags < 256) :
    Gen.packSeqOfFlagsExpr flags = (flags &&& Gen.flagPacketSeq) >>> 2 ∧ Gen.ackFlagSeqExpr seq = seq <<< 4 := by
  -- decided over the whole domain (two-bit numbers, one-byte flags): robust against equivalent rewrites of the source
  have h1 : ∀ f, f < 256 → Gen.packSeqOfFlagsExpr f = (f &&& Gen.flagPacketSeq) >>> 2 := by decide +kernel
  have h2 : ∀ s, s < 4 → Gen.ackFlagSeqExpr s = s <<< 4 := by decide +kernel
  exact ⟨h1 flags hf, h2 seq hs⟩

end Zboss.Rx
