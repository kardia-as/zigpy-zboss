import ZbossModel.Match
/-! # C17 - pattern matching is field-wise wildcarding; a listener fires once per match -/
namespace Zboss.Match

theorem agree_iff (es as : List (Option Nat)) :
    agree es as = true ↔ ∀ i, i < es.length → i < as.length → (es[i]? = some none ∨ es[i]? = as[i]?) := by
  induction es generalizing as with
  | nil => exact ⟨fun _ _ h => absurd h (Nat.not_lt_zero _), fun _ => rfl⟩
  | cons e es ih =>
    cases as with
    | nil => exact ⟨fun _ _ _ h => absurd h (Nat.not_lt_zero _), fun _ => rfl⟩
    | cons a as =>
      -- position 0 is the test on the heads, the positions `i + 1` are the tails'
      rw [agree, Bool.and_eq_true, ih, List.length_cons, Nat.forall_lt_succ_left]
      simp only [Bool.or_eq_true, Option.isNone_iff_eq_none, beq_iff_eq, List.length_cons, Nat.zero_lt_succ,
        forall_const, List.getElem?_cons_zero, Option.some.injEq, Nat.add_lt_add_iff_right, List.getElem?_cons_succ]

/-- **matching = same type and agreement on every parameter the pattern specifies** -/
theorem C17_matches_iff (p c : Cmd) :
    «matches» p c = true ↔ p.ty = c.ty ∧
      ∀ i, i < p.params.length → i < c.params.length → (p.params[i]? = some none ∨ p.params[i]? = c.params[i]?) := by
  simp [«matches», agree_iff]

theorem agree_refl (l : List (Option Nat)) : agree l l = true :=
  (agree_iff l l).mpr fun _ _ _ => .inr rfl

theorem C17_matches_refl (c : Cmd) : «matches» c c = true := by simp [«matches», agree_refl]

theorem agree_trans (a b c : List (Option Nat)) (hlen : a.length ≤ b.length)
    (h1 : agree a b = true) (h2 : agree b c = true) : agree a c = true := by
  rw [agree_iff] at *
  intro i ha hc
  have hb : i < b.length := by omega
  rcases h1 i ha hb with h | h
  · exact .inl h
  · rw [h]; exact h2 i hb hc

/-- transitive (commands of one type have the same number of parameters) -/
theorem C17_matches_trans (a b c : Cmd) (hlen : a.params.length ≤ b.params.length)
    (h1 : «matches» a b = true) (h2 : «matches» b c = true) : «matches» a c = true := by
  simp only [«matches», Bool.and_eq_true, beq_iff_eq] at h1 h2 ⊢
  exact ⟨h1.1.trans h2.1, agree_trans _ _ _ hlen h1.2 h2.2⟩

/-- every command type has a fixed number of parameters -/
def WF (arity : Nat → Nat) (c : Cmd) : Prop := c.params.length = arity c.ty

theorem matches_trans_wf {arity : Nat → Nat} {a b : Cmd} (c : Cmd) (ha : WF arity a) (hb : WF arity b)
    (h1 : «matches» a b = true) (h2 : «matches» b c = true) : «matches» a c = true :=
  C17_matches_trans a b c (by rw [ha, hb, ((C17_matches_iff a b).mp h1).1]; exact Nat.le_refl _) h1 h2

theorem insertMax_forall {P : Cmd → Prop} (ms : List Cmd) (x : Cmd) (hms : ∀ m ∈ ms, P m) (hx : P x) :
    ∀ m ∈ insertMax ms x, P m := by
  induction ms with
  | nil => exact List.forall_mem_singleton.2 hx
  | cons o rest ih =>
    rw [List.forall_mem_cons] at hms
    rw [insertMax]
    by_cases h1 : «matches» o x = true
    · rw [if_pos h1]; exact List.forall_mem_cons.mpr hms
    rw [if_neg h1]
    by_cases h2 : «matches» x o = true
    · rw [if_pos h2]; exact List.forall_mem_cons.mpr ⟨hx, hms.2⟩
    · rw [if_neg h2]; exact List.forall_mem_cons.mpr ⟨hms.1, ih hms.2⟩

theorem anyMatch_insertMax (arity : Nat → Nat) (ms : List Cmd) (x c : Cmd)
    (hms : ∀ m ∈ ms, WF arity m) (hx : WF arity x) :
    anyMatch (insertMax ms x) c = (anyMatch ms c || «matches» x c) := by
  induction ms with
  | nil => simp [insertMax, anyMatch]
  | cons o rest ih =>
    have ho := hms o List.mem_cons_self
    have ih := ih fun m hm => hms m (List.mem_cons_of_mem _ hm)
    simp only [anyMatch, List.any_cons] at ih ⊢
    unfold insertMax; split
    · -- `x` is redundant: what `x` matches, `o` matches
      next h =>
        cases hxc : «matches» x c with
        | false => simp
        | true => simp [matches_trans_wf c ho hx h hxc]
    · split
      · -- `o` is replaced by the more general `x`
        next h =>
          cases hoc : «matches» o c with
          | false => simp [Bool.or_comm]
          | true => simp [matches_trans_wf c hx ho h hoc]
      · simp only [List.any_cons, ih, Bool.or_assoc]

/-- **de-duplication preserves the matched set**: a listener built from any collection of patterns -
    in any order, with duplicates, with chains general → specific - reacts to exactly the commands matched
    by at least one of the patterns given -/
theorem C17_dedup_equiv (arity : Nat → Nat) (ps : List Cmd) (c : Cmd) (hps : ∀ p ∈ ps, WF arity p) :
    anyMatch (dedup ps) c = anyMatch ps c := by
  suffices h : ∀ (acc : List Cmd), (∀ m ∈ acc, WF arity m) →
      anyMatch (ps.foldl insertMax acc) c = (anyMatch acc c || anyMatch ps c) by
    simpa [dedup, anyMatch] using h [] (by simp)
  induction ps with
  | nil => intro acc _; simp [anyMatch]
  | cons x ps ih =>
    intro acc hacc
    obtain ⟨hx, hps⟩ := List.forall_mem_cons.mp hps
    rw [List.foldl_cons, ih hps _ (insertMax_forall acc x hacc hx), anyMatch_insertMax arity acc x c hacc hx]
    simp [anyMatch, Bool.or_assoc]

/-- the listener's patterns are never empty when it was built from at least one pattern -/
theorem C17_dedup_nonempty (ps : List Cmd) (h : ps ≠ []) : dedup ps ≠ [] := by
  have hne : ∀ acc x, insertMax acc x ≠ [] := by
    rintro (_ | ⟨o, rest⟩) x
    · exact List.cons_ne_nil _ _
    · rw [insertMax]; exact ite_ne (List.cons_ne_nil _ _) (ite_ne (List.cons_ne_nil _ _) (List.cons_ne_nil _ _))
  -- the last pattern is inserted last
  obtain ⟨qs, x, rfl⟩ : ∃ qs x, ps = qs ++ [x] := ⟨ps.dropLast, ps.getLast h, (List.dropLast_concat_getLast h).symm⟩
  simp [dedup, List.foldl_append, hne]

/-! ## non-vacuity: a chain general → specific plus a duplicate collapses to the general pattern -/
example : dedup [⟨7, [some 1, some 2]⟩, ⟨7, [some 1, none]⟩, ⟨7, [some 1, some 2]⟩, ⟨8, [none]⟩] =
    [⟨7, [some 1, none]⟩, ⟨8, [none]⟩] := by decide

end Zboss.Match
