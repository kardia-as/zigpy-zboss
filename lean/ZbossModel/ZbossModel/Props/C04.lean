import ZbossModel.Proofs.CodecSound
import ZbossModel.Generated.Commands
/-! # C04 - every typed command survives encode -> wire -> decode unchanged

`View` = what the bytes depend on (header, per wire field: wire type, optional flag); `mkOk` is the
model of `cls(**params)` succeeding, `toBytes` of `to_frame()` (command header + parameters),
`fromPayload` of `from_frame()` on the parameter bytes. -/
namespace Zboss.Codec
open Wire

/-- **layout**: the bytes are the 4-byte little-endian command header followed by the encodings of the
    given parameters in schema order (omitted optionals contribute nothing) -/
theorem C04_layout (v : View) (f : FView) (fs : List FView) (x : Val) (xs : Assign) :
    toBytes v [] = toLE 4 v.header ∧
    encParams (f :: fs) (some x :: xs) = (encW f.wt x).getD [] ++ encParams fs xs ∧
    encParams (f :: fs) (none :: xs) = encParams fs xs := ⟨by simp [toBytes, encParams], rfl, rfl⟩

/-- **refusal**: construction succeeds only if every given value is within the range of its wire type, so
    no out-of-range encoding is ever emitted -/
theorem C04_refusal (v : View) (a : Assign) (h : mkOk v a = true) (i : Nat) (f : FView) (x : Val)
    (hf : v.fields[i]? = some f) (hx : a[i]? = some (some x)) : ∃ b, encW f.wt x = some b := by
  have hmem : (f, some x) ∈ v.fields.zip a :=
    List.mem_iff_getElem?.mpr ⟨i, List.getElem?_zip_eq_some.2 ⟨hf, hx⟩⟩
  exact Option.isSome_iff_exists.mp (List.all_eq_true.mp (mkOk_iff.mp h).2.1 _ hmem)

/-- unsigned integers (also enums and bitmaps) are accepted exactly in `0 ≤ n < 256^k` -/
theorem C04_uint_range (k : Nat) (n : Int) : (encS (.uint k) (.num n)).isSome = true ↔ (0 ≤ n ∧ n < pow256 k) := by
  rw [encS, Option.isSome_ite]

/-- signed integers exactly in `-(256^k)/2 ≤ n < (256^k)/2` -/
theorem C04_sint_range (k : Nat) (n : Int) :
    (encS (.sint k) (.num n)).isSome = true ↔ (-(pow256 k / 2) ≤ n ∧ n < pow256 k / 2) := by
  rw [encS, Option.isSome_ite]

theorem canon_given (pre rest : List FView) (xs : List Val) (tail : Assign) (hl : xs.length = pre.length) :
    canon (pre ++ rest) (xs.map some ++ tail) = xs.map some ++ canon rest tail := by
  induction pre generalizing xs with
  | nil => cases List.eq_nil_of_length_eq_zero hl; rfl
  | cons f pre ih =>
    obtain _ | ⟨x, xs⟩ := xs
    · cases hl
    · simp only [List.cons_append, List.map_cons, canon, ih xs (Nat.succ.inj hl)]

theorem optPrefixOk_given (fs : List FView) (xs : List Val) : optPrefixOk fs (xs.map some) = true := by
  induction fs generalizing xs with
  | nil => cases xs <;> rfl
  | cons f fs ih => cases xs <;> simp [optPrefixOk, ih]

/-- in a response the three status fields come before any optional one -/
theorem status_before_optional (v : View) (hs : SchemaOK v = true) (hct : ctype v = 1) (pre : List FView) (f : FView)
    (post : List FView) (hfs : v.fields = pre ++ f :: post) (hopt : f.optional = true) :
    v.statusIdx = some 2 ∧ 3 ≤ pre.length := by
  simp only [SchemaOK, hct, bne_self_eq_false, Bool.false_or, Bool.and_eq_true, beq_iff_eq] at hs
  refine ⟨hs.2.1, Nat.le_of_not_lt fun hlt => ?_⟩
  -- `f` is one of the first three fields, none of which is optional
  have h3 := congrArg (·[pre.length]?) hs.2.2
  simp only [hfs, List.getElem?_map, List.getElem?_take, hlt, if_true, List.getElem?_append_right (Nat.le_refl _),
    Nat.sub_self, List.getElem?_cons_zero, Option.map_some, hopt] at h3
  have := List.mem_of_getElem? h3.symm
  simp at this

/-- **round trip**: for every schema of the shape the host parses and every valid parameter assignment,
    decoding the bytes produced yields the same assignment with no bytes left over - up to the one
    ambiguity `canon` names (an omitted trailing greedy list reads back as the empty list) -/
theorem C04_roundtrip (v : View) (hs : SchemaOK v = true) (a : Assign) (hmk : mkOk v a = true) :
    ∃ d, fromPayload v (encParams v.fields a) = .ok d ∧ d.assign = canon v.fields a := by
  have hs' := hs
  simp only [SchemaOK, Bool.and_eq_true] at hs'
  obtain ⟨⟨hfok, hown⟩, -⟩ := hs'
  obtain ⟨hla, hslots, hopts⟩ := mkOk_iff.mp hmk
  obtain ⟨pre, xs, rest, tail, hfs, rfl, hpre, hcase⟩ := mkOk_split v.fields a hfok hla hslots hopts
  have hl := givenOk_length pre xs hpre
  have hlen : (xs.map some).length = pre.length := by rw [List.length_map, hl]
  -- the loop reads the given run back and stands at `rest` with the bytes of `tail`
  rw [fromPayload, hfs, encParams_append _ _ _ _ hlen, encParams_given, parse_prefix v pre xs hpre, canon_given _ _ _ _ hl]
  rcases hcase with ⟨rfl, rfl⟩ | ⟨g, ts, rs, rfl, rfl, hts, hpos, he⟩ | ⟨g, ts, rfl, rfl, hts, hopt⟩ |
    ⟨f, r, rfl, rfl, hopt, hg, hmin⟩
  · exact ⟨.full (xs.map some ++ []), by
      simp only [parseLoop_nil, encParams, List.isEmpty_nil, if_true, finish, List.append_nil] at hmk ⊢
      rw [if_pos hmk], rfl⟩
  · obtain ⟨b, hb⟩ := Option.isSome_iff_exists.mp he
    have henc : encW g.wt (.rows rs) = some b := by rw [hts]; exact hb
    have hd := decW_encW_greedy ts hpos rs b hb
    rw [← hts] at hd
    exact ⟨.full (xs.map some ++ [some (.rows rs)]), by simp only [encParams, henc, Option.getD_some, List.append_nil,
      parseLoop_ok hd, parseLoop_nil, List.isEmpty_nil, if_true, finish, hmk], rfl⟩
  · -- an omitted greedy list reads back as the empty list, which the constructor accepts as well
    have hd : decW g.wt [] = .ok (.rows [], []) := by rw [hts]; simp [decW, decRowsAll]
    have hc : canon [g] [none] = [some (.rows [])] := by simp [canon, hts, WT.isGreedy]
    have hmk2 : mkOk v (xs.map some ++ [some (.rows [])]) = true := by
      rw [hfs, List.zip_append hlen.symm, List.all_append, Bool.and_eq_true] at hslots
      refine mkOk_iff.mpr ⟨by simpa using hla, ?_, ?_⟩
      · rw [hfs, List.zip_append hlen.symm, List.all_append, hslots.1, Bool.true_and]
        show ((encW g.wt (.rows [])).isSome && true) = true
        rw [hts]; rfl
      · have := optPrefixOk_given (pre ++ [g]) (xs ++ [.rows []])
        rwa [List.map_append, ← hfs] at this
    exact ⟨.full (xs.map some ++ [some (.rows [])]), by
      simp only [encParams, parseLoop_ok hd, parseLoop_nil, List.isEmpty_nil, if_true, finish, hmk2], by rw [hc]; rfl⟩
  · have hstop : parseLoop v pre (f :: r) (xs.map some) (encParams (f :: r) ((f :: r).map fun _ => none)) =
        onError v pre f r (xs.map some) [] := by
      rw [encParams_nones _ _ (by simp), parseLoop_error (decW_empty f.wt hg hmin)]
    have hown' := optOwn_of _ hown pre f r hfs hopt
    have hc : canon (f :: r) ((f :: r).map fun _ => none) = (f :: r).map fun _ => none := by simp [canon, hg]
    have hall := mkOk_allEnc v _ hmk
    rw [hstop, hc]
    by_cases hct : ctype v = 1
    · obtain ⟨hsi, h3⟩ := status_before_optional v hs hct pre f r hfs hopt
      rw [onError_rsp_given hct hsi hl h3 hown']
      by_cases hz : isZeroStatus ((xs.map some).getD 2 none) = true
      · exact ⟨.full _, by simp only [hz, Bool.not_true, Bool.false_eq_true, if_false, List.isEmpty_nil, hopt,
          Bool.and_self, if_true, finish, hmk], rfl⟩
      · exact ⟨.partialCmd _, by simp only [hz, Bool.not_false, if_true, finish, hall], rfl⟩
    · rw [onError_not_rsp hct, dropParam_id pre _ f.param hlen hown']
      exact ⟨.full _, by simp only [List.isEmpty_nil, hopt, Bool.and_self, if_true, finish, hmk], rfl⟩

/-- the working tree's table: every response and indication schema has the shape the theorem needs -/
theorem C04_table_ok : ((Gen.commands.map viewOf).filter (fun v => ctype v != 0)).all SchemaOK = true := by
  decide +kernel

theorem schemaOK_of_mem (v : View) (hv : v ∈ Gen.commands.map viewOf) (hdir : ctype v ≠ 0) : SchemaOK v = true :=
  List.all_eq_true.mp C04_table_ok v (List.mem_filter.mpr ⟨hv, by simpa using hdir⟩)

/-- **all response / indication classes × all valid assignments** -/
theorem C04_all_classes (v : View) (hv : v ∈ Gen.commands.map viewOf) (hdir : ctype v ≠ 0) (a : Assign)
    (hmk : mkOk v a = true) :
    ∃ d, fromPayload v (encParams v.fields a) = .ok d ∧ d.assign = canon v.fields a :=
  C04_roundtrip v (schemaOK_of_mem v hv hdir) a hmk

/-- `canon` is the identity unless the last field is an omitted optional greedy list -/
theorem C04_canon_id (fs : List FView) (a : Assign) (h : fs.all (fun f => !(f.wt.isGreedy && f.optional)) = true)
    (ha : assignOk fs a = true) : canon fs a = a := by
  induction fs generalizing a with
  | nil => cases a <;> rfl
  | cons f fs ih =>
    simp only [List.all_cons, Bool.and_eq_true] at h
    cases a with
    | nil => rfl
    | cons x xs =>
      cases x with
      | some x => simp only [assignOk, Bool.and_eq_true] at ha; simp [canon, ih xs h.2 ha.2]
      | none =>
        simp only [assignOk, Bool.and_eq_true] at ha
        have : f.wt.isGreedy = false := by
          have := h.1; simp [ha.1.1] at this; exact this
        simp [canon, this]

/-- exactly one class has such a field (`ZDO.IeeeAddrReq.Rsp`) -/
theorem C04_one_ambiguous_class :
    ((Gen.commands.map viewOf).filter (fun v => !(v.fields.all fun f => !(f.wt.isGreedy && f.optional)))).map (·.header) =
      [0x02020100] := by decide +kernel

/-- ... and there the ambiguity is real: two different valid commands have the same bytes, so *no* decoder
    could return the original for both -/
theorem C04_ambiguous_encoding :
    let fs : List FView := [⟨.sc (.uint 1), true, 0, []⟩, ⟨.greedy [.uint 2], true, 1, []⟩]
    encParams fs [some (.sc (.num 3)), none] = encParams fs [some (.sc (.num 3)), some (.rows [])] := by decide

/-! ## non-vacuity: a response with an omitted optional parameter -/
example : let v : View := ⟨0x00010100, some 2, [⟨.sc (.uint 1), false, 0, []⟩, ⟨.sc (.uint 1), false, 1, []⟩,
      ⟨.sc (.uint 1), false, 2, []⟩, ⟨.sc (.uint 2), true, 3, []⟩]⟩
    SchemaOK v = true ∧ mkOk v [some (.sc (.num 7)), some (.sc (.num 0)), some (.sc (.num 0)), none] = true := by decide

end Zboss.Codec
