import ZbossModel.Proofs.Frame
import Mathlib.Algebra.Group.Nat.Defs
/-! # C05 - every frame the host builds is well-formed and decodes back to itself

Part 1: get/set laws of the bit-field code generated from frames.py /
types/commands.py ("changing one header field never alters another"), for every
56-bit (32-bit) header value and every argument.
Part 2: byte image of the frames the host builds (`to_frame`, fragments, ACKs,
after `_set_frame_flag` + `_ll_checksum`), an independent reference decoder, and
the library's own decoder. -/
namespace Zboss
open Gen

/-! ## Part 1: 25 + 9 get/set laws -/
namespace Gen
theorem C05_LLHeader_signature_with_signature (h v : BitVec 56) :
    LLHeader.signature (LLHeader.with_signature h v) = v &&& 0xFFFF#56 := LLHeader.signatureField.get_set (by decide) h v
theorem C05_LLHeader_signature_with_size (h v : BitVec 56) :
    LLHeader.signature (LLHeader.with_size h v) = LLHeader.signature h := LLHeader.signatureField.get_set_of_disjoint LLHeader.sizeField (by decide) h v
theorem C05_LLHeader_signature_with_type (h v : BitVec 56) :
    LLHeader.signature (LLHeader.with_type h v) = LLHeader.signature h := LLHeader.signatureField.get_set_of_disjoint LLHeader.typeField (by decide) h v
theorem C05_LLHeader_signature_with_flags (h v : BitVec 56) :
    LLHeader.signature (LLHeader.with_flags h v) = LLHeader.signature h := LLHeader.signatureField.get_set_of_disjoint LLHeader.flagsField (by decide) h v
theorem C05_LLHeader_signature_with_crc8 (h v : BitVec 56) :
    LLHeader.signature (LLHeader.with_crc8 h v) = LLHeader.signature h := LLHeader.signatureField.get_set_of_disjoint LLHeader.crc8Field (by decide) h v
theorem C05_LLHeader_size_with_signature (h v : BitVec 56) :
    LLHeader.size (LLHeader.with_signature h v) = LLHeader.size h := LLHeader.sizeField.get_set_of_disjoint LLHeader.signatureField (by decide) h v
theorem C05_LLHeader_size_with_size (h v : BitVec 56) :
    LLHeader.size (LLHeader.with_size h v) = v &&& 0xFFFF#56 := LLHeader.sizeField.get_set (by decide) h v
theorem C05_LLHeader_size_with_type (h v : BitVec 56) :
    LLHeader.size (LLHeader.with_type h v) = LLHeader.size h := LLHeader.sizeField.get_set_of_disjoint LLHeader.typeField (by decide) h v
theorem C05_LLHeader_size_with_flags (h v : BitVec 56) :
    LLHeader.size (LLHeader.with_flags h v) = LLHeader.size h := LLHeader.sizeField.get_set_of_disjoint LLHeader.flagsField (by decide) h v
theorem C05_LLHeader_size_with_crc8 (h v : BitVec 56) :
    LLHeader.size (LLHeader.with_crc8 h v) = LLHeader.size h := LLHeader.sizeField.get_set_of_disjoint LLHeader.crc8Field (by decide) h v
theorem C05_LLHeader_frame_type_with_signature (h v : BitVec 56) :
    LLHeader.frame_type (LLHeader.with_signature h v) = LLHeader.frame_type h := LLHeader.typeField.get_set_of_disjoint LLHeader.signatureField (by decide) h v
theorem C05_LLHeader_frame_type_with_size (h v : BitVec 56) :
    LLHeader.frame_type (LLHeader.with_size h v) = LLHeader.frame_type h := LLHeader.typeField.get_set_of_disjoint LLHeader.sizeField (by decide) h v
theorem C05_LLHeader_frame_type_with_type (h v : BitVec 56) :
    LLHeader.frame_type (LLHeader.with_type h v) = v &&& 0xFF#56 := LLHeader.typeField.get_set (by decide) h v
theorem C05_LLHeader_frame_type_with_flags (h v : BitVec 56) :
    LLHeader.frame_type (LLHeader.with_flags h v) = LLHeader.frame_type h := LLHeader.typeField.get_set_of_disjoint LLHeader.flagsField (by decide) h v
theorem C05_LLHeader_frame_type_with_crc8 (h v : BitVec 56) :
    LLHeader.frame_type (LLHeader.with_crc8 h v) = LLHeader.frame_type h := LLHeader.typeField.get_set_of_disjoint LLHeader.crc8Field (by decide) h v
theorem C05_LLHeader_flags_with_signature (h v : BitVec 56) :
    LLHeader.flags (LLHeader.with_signature h v) = LLHeader.flags h := LLHeader.flagsField.get_set_of_disjoint LLHeader.signatureField (by decide) h v
theorem C05_LLHeader_flags_with_size (h v : BitVec 56) :
    LLHeader.flags (LLHeader.with_size h v) = LLHeader.flags h := LLHeader.flagsField.get_set_of_disjoint LLHeader.sizeField (by decide) h v
theorem C05_LLHeader_flags_with_type (h v : BitVec 56) :
    LLHeader.flags (LLHeader.with_type h v) = LLHeader.flags h := LLHeader.flagsField.get_set_of_disjoint LLHeader.typeField (by decide) h v
theorem C05_LLHeader_flags_with_flags (h v : BitVec 56) :
    LLHeader.flags (LLHeader.with_flags h v) = v &&& 0xFF#56 := LLHeader.flagsField.get_set (by decide) h v
theorem C05_LLHeader_flags_with_crc8 (h v : BitVec 56) :
    LLHeader.flags (LLHeader.with_crc8 h v) = LLHeader.flags h := LLHeader.flagsField.get_set_of_disjoint LLHeader.crc8Field (by decide) h v
theorem C05_LLHeader_crc8_with_signature (h v : BitVec 56) :
    LLHeader.crc8 (LLHeader.with_signature h v) = LLHeader.crc8 h := LLHeader.crc8Field.get_set_of_disjoint LLHeader.signatureField (by decide) h v
theorem C05_LLHeader_crc8_with_size (h v : BitVec 56) :
    LLHeader.crc8 (LLHeader.with_size h v) = LLHeader.crc8 h := LLHeader.crc8Field.get_set_of_disjoint LLHeader.sizeField (by decide) h v
theorem C05_LLHeader_crc8_with_type (h v : BitVec 56) :
    LLHeader.crc8 (LLHeader.with_type h v) = LLHeader.crc8 h := LLHeader.crc8Field.get_set_of_disjoint LLHeader.typeField (by decide) h v
theorem C05_LLHeader_crc8_with_flags (h v : BitVec 56) :
    LLHeader.crc8 (LLHeader.with_flags h v) = LLHeader.crc8 h := LLHeader.crc8Field.get_set_of_disjoint LLHeader.flagsField (by decide) h v
theorem C05_LLHeader_crc8_with_crc8 (h v : BitVec 56) :
    LLHeader.crc8 (LLHeader.with_crc8 h v) = v &&& 0xFF#56 := LLHeader.crc8Field.get_set (by decide) h v
theorem C05_HLHeader_version_with_version (h v : BitVec 32) :
    HLHeader.version (HLHeader.with_version h v) = v &&& 0xFF#32 := HLHeader.versionField.get_set (by decide) h v
theorem C05_HLHeader_version_with_type (h v : BitVec 32) :
    HLHeader.version (HLHeader.with_type h v) = HLHeader.version h := HLHeader.versionField.get_set_of_disjoint HLHeader.typeField (by decide) h v
theorem C05_HLHeader_version_with_id (h v : BitVec 32) :
    HLHeader.version (HLHeader.with_id h v) = HLHeader.version h := HLHeader.versionField.get_set_of_disjoint HLHeader.idField (by decide) h v
theorem C05_HLHeader_control_type_with_version (h v : BitVec 32) :
    HLHeader.control_type (HLHeader.with_version h v) = HLHeader.control_type h := HLHeader.typeField.get_set_of_disjoint HLHeader.versionField (by decide) h v
theorem C05_HLHeader_control_type_with_type (h v : BitVec 32) :
    HLHeader.control_type (HLHeader.with_type h v) = v &&& 0xFF#32 := HLHeader.typeField.get_set (by decide) h v
theorem C05_HLHeader_control_type_with_id (h v : BitVec 32) :
    HLHeader.control_type (HLHeader.with_id h v) = HLHeader.control_type h := HLHeader.typeField.get_set_of_disjoint HLHeader.idField (by decide) h v
theorem C05_HLHeader_id_with_version (h v : BitVec 32) :
    HLHeader.id (HLHeader.with_version h v) = HLHeader.id h := HLHeader.idField.get_set_of_disjoint HLHeader.versionField (by decide) h v
theorem C05_HLHeader_id_with_type (h v : BitVec 32) :
    HLHeader.id (HLHeader.with_type h v) = HLHeader.id h := HLHeader.idField.get_set_of_disjoint HLHeader.typeField (by decide) h v
theorem C05_HLHeader_id_with_id (h v : BitVec 32) :
    HLHeader.id (HLHeader.with_id h v) = v &&& 0xFFFF#32 := HLHeader.idField.get_set (by decide) h v

/-- every getter's value fits the integer type the Python accessor wraps it in.  (The Mathlib import at the head of this
    file serves this statement only: it makes `2 ^ _` on `Nat` Mathlib's `Monoid.npow`, as when the statement was first
    checked; without it the same text elaborates to a different term.) -/
theorem LLHeader.getters_fit (h : BitVec 56) :
    (LLHeader.signature h).toNat < 2 ^ LLHeader.signature_bits ∧
    (LLHeader.size h).toNat < 2 ^ LLHeader.size_bits ∧
    (LLHeader.frame_type h).toNat < 2 ^ LLHeader.frame_type_bits ∧
    (LLHeader.flags h).toNat < 2 ^ LLHeader.flags_bits ∧
    (LLHeader.crc8 h).toNat < 2 ^ LLHeader.crc8_bits :=
  ⟨LLHeader.signatureField.toNat_get_lt h, LLHeader.sizeField.toNat_get_lt h, LLHeader.typeField.toNat_get_lt h,
    LLHeader.flagsField.toNat_get_lt h, LLHeader.crc8Field.toNat_get_lt h⟩

end Gen

/-! ## Part 2: frames on the wire -/

/-- **well-formedness**: every data frame / fragment the host builds, once stamped with a sequence number,
    serializes to marker, length (= bytes after the marker), type 6, flags, CRC8 over length/type/flags,
    CRC16 over the body, body -/
theorem C05_frame_wf (fl seq n : Nat) (p : HLPacket) (hn : n = p.serialize.length + 5) (hlen : n ≤ 65535) :
    (Frame.stamp seq (Frame.mkData fl p n)).serialize =
      [0xDE, 0xAD] ++ toLE 2 n ++
      [6, UInt8.ofNat (wireFlags fl seq), Crc.crc8B (toLE 2 n ++ [6, UInt8.ofNat (wireFlags fl seq)])] ++
      toLE 2 (Crc.crc16B p.body) ++ p.body
    ∧ (Frame.stamp seq (Frame.mkData fl p n)).serialize.length = n + 2 :=
  Frame.serialize_stamp_mkData fl seq n p hn hlen

/-- `Ref.decode` on a data frame, its first seven bytes spelled out as the decoder matches them: an even flags byte,
    `n - 5` bytes after the header, the first two of them the CRC16 of the others -/
theorem Ref.decode_data (l0 l1 fl : UInt8) (c body r : Bytes) (n : Nat) (hc : c.length = 2)
    (hn : fromLE [l0, l1] = n) (hb : n = body.length + 7) (hfl : fl.toNat % 2 = 0) (hcrc : fromLE c = Crc.crc16B body) :
    Ref.decode (0xDE :: 0xAD :: l0 :: l1 :: 6 :: fl :: Crc.crc8B [l0, l1, 6, fl] :: (c ++ body ++ r)) =
      some (⟨n, fl.toNat, body⟩, r) := by
  have hn' : l0.toNat + 256 * l1.toNat = n := hn
  have hblk : n - 5 = (c ++ body).length := by rw [List.length_append, hc, Nat.add_comm 2, hb]; rfl
  unfold Ref.decode
  simp only [hn', hblk, List.take_left', List.drop_left', List.take_left' hc, List.drop_left' hc, hcrc]
  simp [hfl, hb]

/-- **independent decoder**: a decoder written from the link format alone recovers length, flags and body
    (command header ++ payload) of every frame the host builds and consumes exactly the frame -/
theorem C05_ref_roundtrip (fl seq n : Nat) (p : HLPacket) (r : Bytes)
    (hn : n = p.serialize.length + 5) (hlen : n ≤ 65535) (hdata : wireFlags fl seq % 2 = 0) :
    Ref.decode ((Frame.stamp seq (Frame.mkData fl p n)).serialize ++ r) =
      some (⟨n, wireFlags fl seq, p.body⟩, r) := by
  have hfl : (UInt8.ofNat (wireFlags fl seq)).toNat = wireFlags fl seq :=
    Nat.mod_eq_of_lt (Nat.mod_lt _ (by decide))
  have hn' : n = p.body.length + 7 := by rw [hn, HLPacket.serialize, List.length_append, toLE_length, Nat.add_comm 2]
  have := Ref.decode_data (UInt8.ofNat (n % 256)) (UInt8.ofNat (n / 256 % 256)) (UInt8.ofNat (wireFlags fl seq))
    _ p.body r n (toLE_length 2 _) (fromLE_toLE 2 n (Nat.lt_succ_of_le hlen)) hn' (hfl.symm ▸ hdata)
    (fromLE_toLE 2 _ (Crc.crc16 _).isLt)
  rw [(Frame.serialize_stamp_mkData fl seq n p hn hlen).1]
  rwa [hfl] at this

/-- **library decoder, complete frames**: what `to_frame` builds (first+last flags, a command header),
    stamped with any sequence number, is decoded by `Frame.deserialize` to the same frame, consuming
    exactly the frame -/
theorem C05_lib_roundtrip (fl seq n : Nat) (h : HLH) (data r : Bytes) (hh : h ≠ 0#32)
    (hn : n = (HLPacket.mk (some h) data).serialize.length + 5) (hlen : n ≤ 65535)
    (hack : Frame.hasFlag (wireFlags fl seq) Gen.flagisACK = false)
    (hfirst : Frame.hasFlag (wireFlags fl seq) Gen.flagFirstFrag = true) :
    Frame.deserialize ((Frame.stamp seq (Frame.mkData fl ⟨some h, data⟩ n)).serialize ++ r) =
      .ok (Frame.stamp seq (Frame.mkData fl ⟨some h, data⟩ n), r) := by
  obtain ⟨h1, h2, -, h4, -, h6⟩ := LL.sealed_fields n (seq <<< 2 ||| fl % 256) hlen
  have hk : ((n : Int) - 5) = ((HLPacket.mk (some h) data).serialize.length : Int) := by omega
  rw [Frame.stamp_mkData]
  simp only [Frame.serialize, List.append_assoc]
  rw [Frame.deserialize_bytes _ _ h1 h6, h2, h4, hk, Frame.pyTake_nat, Frame.pyDrop_nat, List.take_left,
    List.drop_left, HLPacket.deserialize_serialize h hh]
  simp only [wireFlags] at hack hfirst
  rw [hack, hfirst, if_neg Bool.false_ne_true, if_pos rfl]
  rfl

/-- **acknowledgements**: all sequence values and retransmit flags: byte image and library round trip -/
theorem C05_ack (seq : Fin 4) (retransmit : Bool) (r : Bytes) :
    let F := (seq.val <<< 4) ||| 1 ||| (if retransmit then 2 else 0)
    (Frame.ack seq.val retransmit).serialize =
      [0xDE, 0xAD, 5, 0, 6, UInt8.ofNat F, Crc.crc8B [5, 0, 6, UInt8.ofNat F]] ∧
    Frame.deserialize ((Frame.ack seq.val retransmit).serialize ++ r) = .ok (Frame.ack seq.val retransmit, r) :=
  ack_roundtrip seq.val retransmit r

/-! ## non-vacuity -/
example : let p : HLPacket := ⟨some (HLH.mk 2 0), [1]⟩
    p.serialize.length + 5 = 12 ∧ wireFlags 0xC0 2 % 2 = 0 ∧
    Frame.hasFlag (wireFlags 0xC0 2) Gen.flagisACK = false ∧ Frame.hasFlag (wireFlags 0xC0 2) Gen.flagFirstFrag = true ∧
    HLH.mk 2 0 ≠ 0#32 := by decide

end Zboss
