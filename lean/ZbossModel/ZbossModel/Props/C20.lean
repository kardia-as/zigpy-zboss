import ZbossModel.Proofs.HostTimers
import ZbossModel.Proofs.HostBound
import ZbossModel.Proofs.HostRest
/-! # C20 - closing or losing the link never strands a caller and is reported once -/
namespace Zboss.Host

/-- **new requests are refused immediately** once the link is gone (closed or lost) -/
theorem C20_refuse_new (st : St) (id key : Nat) (blocking : Bool) (nfrags timeout : Nat) (hclosed : st.isOpen = false)
    (hfresh : st.reqs.any (·.id == id) = false) :
    (step st (.start id key blocking nfrags timeout)).out = [.done id .runtimeError] ∧
    (step st (.start id key blocking nfrags timeout)).reqs = st.reqs := by
  rw [step_eq_pre, pre_start, if_neg (hfresh ▸ Bool.false_ne_true), if_pos hclosed]; exact ⟨rfl, rfl⟩

/-- **close cancels every waiter and shuts the link**: afterwards no response listener is registered, the
    link is closed and the transport gone; every request that was waiting for its response is woken -/
theorem C20_close (st : St) (hnr : st.resetting = false) :
    (step st .close).listeners = [] ∧ (step st .close).isOpen = false ∧
    (st.isOpen = true → (step st .close).transport = false ∧ (step st .close).pack = 0) := by
  have hf := frame_step st .close
  rw [pre_close, hnr] at hf
  have hs : Shut (step st .close) := shut_of_frame hf ⟨rfl, rfl⟩
  refine ⟨hs.2, hs.1, fun ho => ?_⟩
  rw [ho] at hf
  exact ⟨hf.transport, hf.pack⟩

/-- every request that had a listener at `close` has its response future cancelled -/
theorem C20_close_cancels (st : St) (hnr : st.resetting = false) (l : Nat × Nat) (hl : l ∈ st.listeners) (r : Req)
    (hr : r ∈ st.reqs) (hid : r.id = l.1) :
    ∃ st1, step st .close = settle (settleFuel st1) st1 ∧ ∃ r' ∈ st1.reqs, r'.id = r.id ∧ r'.got = .cancelled := by
  refine ⟨(pre st .close).1, by rw [step_eq_pre, pre_close]; rfl, { r with got := .cancelled }, ?_, rfl, rfl⟩
  rw [pre_close, hnr]
  exact List.mem_map.mpr ⟨r, hr, if_pos (List.contains_iff_mem.mpr (hid ▸ List.mem_map_of_mem (f := (·.1)) hl))⟩

/-- **closing again is harmless**: a second close closes nothing and reports nothing but completions -/
theorem C20_close_idempotent (st : St) (hclosed : st.isOpen = false) :
    Out.closeOut ∉ (step st .close).out ∧ Out.appLost ∉ (step st .close).out := by
  have hf := frame_step st .close
  rw [pre_close, hclosed] at hf
  exact ⟨notmem_of_frame hf _ rfl List.not_mem_nil, notmem_of_frame hf _ rfl List.not_mem_nil⟩

/-- **loss is reported exactly once - and not at all while a deliberate reset is in progress** -/
theorem C20_lost_once (st : St) :
    ((step st .lost).out.filter (· == Out.appLost)).length = (if st.resetting then 0 else 1) ∧
    (step st .lost).isOpen = false := by
  have hf := frame_step st .lost
  rw [pre_lost] at hf
  refine ⟨?_, hf.isOpen⟩
  rw [count_of_frame hf Out.appLost rfl]
  show ((if st.resetting = true then [] else [Out.appLost]).filter _).length = _
  split <;> rfl

/-- no other event ever reports a loss, and only `close` closes -/
theorem C20_no_spurious_report (st : St) (e : Ev) (he : ∀ b, e ≠ .lost ∧ e ≠ .close ∧ e ≠ .setReset b) (o : Out)
    (ho : o = .appLost ∨ o = .closeOut) : o ∉ (step st e).out := by
  have hwd : isWD o = false := by rcases ho with rfl | rfl <;> rfl
  have hne : o ≠ .wack := by rcases ho with rfl | rfl <;> exact Out.noConfusion
  -- task runs report only writes and completions; so does the immediate effect of these events, but for the
  -- link-layer ACK of a response frame
  refine notmem_of_frame (frame_step st e) o hwd ?_
  have hnil : o ∉ ({ st with out := [] } : St).out := List.not_mem_nil
  cases e with
  | close => exact absurd rfl (he true).2.1
  | lost => exact absurd rfl (he true).1
  | setReset b => exact absurd rfl (he b).2.2
  | rxAck k => rw [pre_rxAck]; exact ite_both hnil hnil
  | connect => rw [pre_connect]; exact ite_both hnil hnil
  | start id k blocking nfrags timeout =>
    rw [pre_start]; exact ite_both hnil (ite_both (notmem_of_frame (frame_emit _ _ rfl) o hwd hnil) hnil)
  | rxRsp k =>
    rw [pre_rxRsp]
    have h1 : o ∉ (if st.transport then [Out.wack] else []) :=
      ite_both (fun h => hne (List.mem_singleton.mp h)) List.not_mem_nil
    -- routing the response emits nothing
    cases st.listeners.find? (fun l => l.2 == k) with
    | none => exact h1
    | some l => show o ∉ (answer _ l.1).out; rw [answer_eq]; exact h1
  | tick =>
    cases hnd : nextDeadline ({ st with out := [] } : St) with
    | none => rw [pre_tick_none st hnd]; exact hnil
    | some d => rw [pre_tick st d hnd]; exact notmem_of_frame (frame_foldl_unwind _ _ _) o hwd hnil
  | cancel id => rw [pre_cancel]; exact ite_both hnil (notmem_of_frame (frame_unwind _ _ _) o hwd hnil)

/-- `close()` (no reset in progress) leaves the API shut: link gone, listener table empty -/
theorem C20_close_shuts (st : St) (hnr : st.resetting = false) : Shut (step st .close) :=
  ⟨(C20_close st hnr).2.1, (C20_close st hnr).1⟩

/-- … and it stays shut whatever happens afterwards (responses, ACKs, timers, cancellations, further closes,
    loss, new requests - which are refused) - until `connect()` is called on the object again -/
theorem C20_shut_forever (st : St) (h : Shut st) (evs : List Ev) (hnc : ∀ e ∈ evs, e ≠ .connect) :
    Shut (evs.foldl step st) := by
  induction evs generalizing st with
  | nil => exact h
  | cons e es ih =>
    exact ih _ (shut_step st e (hnc e (List.mem_cons_self ..)) h) (fun x hx => hnc x (List.mem_cons_of_mem _ hx))

/-- **none waits for its response after close - every history, every scheduling order**: in any state the
    event loop can be in once the API is shut, every request that is still running carries a response future
    that is already resolved or cancelled (`got ≠ nothing`); its response timeout plays no role any more -/
theorem C20_none_awaits_response (hist : List Out) (st : St) (h : MReach hist st) (hs : Shut st) (r : Req)
    (hr : r ∈ st.reqs) (hp : r.phase ≠ .done) : r.got ≠ .nothing :=
  no_listener_no_wait (cov_of_table (mreach_table hist st h).2) hs.2 hr hp

/-- such a request, once it is in its response wait, ends at its very next task step; and a request that is
    about to hand a fragment to the link ends there with `RuntimeError` -/
theorem C20_next_step_ends (hist : List Out) (st : St) (h : MReach hist st) (hs : Shut st) (i : Nat) (r : Req)
    (hg : getReq st i = some r) :
    (r.phase = .waitRsp → ∃ o, (runReq 1 st i).out = st.out ++ [.done i o]) ∧
    (r.phase = .sendfrag → (runReq 1 st i).out = st.out ++ [.done i .runtimeError]) := by
  refine ⟨fun hp => ?_, fun hp => sendfrag_step_ends st i r hg hp hs.1⟩
  have hrm := (getReq_mem st i r hg).1
  exact waitRsp_step_ends (runReq_micro st i r hg) hp (C20_none_awaits_response hist st h hs r hrm (by rw [hp]; decide))

/-- the converse of C13's "no residue", for every history: a running request that has been neither answered
    nor cancelled still has its listener - so `close()`, which cancels every listener, reaches every request -/
theorem C20_close_reaches_every_request (evs : List Ev) (r : Req) (hr : r ∈ (runEvents {} evs).1.reqs)
    (hp : r.phase ≠ .done) (hg : r.got = .nothing) : (r.id, r.key) ∈ (runEvents {} evs).1.listeners :=
  (cov_of_table (table_reachable evs)).listener hr hp hg

/-- **the event loop comes to rest after every event of every history** (`Proofs/HostRest.lean`).  Events are taken at
    quiescent points of the loop: this is the theorem that every reachable state of the model is one. -/
theorem C20_loop_comes_to_rest (evs : List Ev) : (runEvents {} evs).1.ready = [] := rest_reachable evs

/-- **no caller is stranded - every history**: after any history (the event loop has nothing left to run,
    `C20_loop_comes_to_rest`), a request that is still running is waiting - directly or through a chain of the three locks - for
    an acknowledgement wait or a response wait that is still pending (both are bounded by timers).  If neither is
    pending, nothing is running.  (Queue integrity and no lost wake-up, `Proofs/HostLive.lean`.) -/
theorem C20_no_stranding (evs : List Ev)
    (hna : ∀ r ∈ (runEvents {} evs).1.reqs, r.phase ≠ .waitAck)
    (hnr : ∀ r ∈ (runEvents {} evs).1.reqs, r.phase = .waitRsp → r.got ≠ .nothing) :
    ∀ r ∈ (runEvents {} evs).1.reqs, r.phase = .done :=
  drain _ (good_reachable evs).live (rest_reachable evs) hna hnr

/-- **after close only the acknowledgement wait keeps anything alive**: in a shut, quiescent state every request
    has ended unless some request is still in its ACK wait - which lasts at most `ACK_TIMEOUT` -/
theorem C20_close_drains (evs : List Ev) (hs : Shut (runEvents {} evs).1)
    (hna : ∀ r ∈ (runEvents {} evs).1.reqs, r.phase ≠ .waitAck) :
    ∀ r ∈ (runEvents {} evs).1.reqs, r.phase = .done :=
  drain_shut _ (good_reachable evs) hs (rest_reachable evs) hna

/-- **every request ends within the acknowledgement wait after close - every history**: let the API be closed in any
    reachable state (no reset in progress); the event loop comes to rest (`C20_loop_comes_to_rest`).  If some request is
    still running then exactly one acknowledgement wait is pending; the next timer to fire is that wait's - the clock
    moves to its deadline, which was set to `now + ACK_TIMEOUT` when the frame was written (`C11_write_step`) - and
    once the loop has come to rest again every request has ended.  No request sits out its response timeout. -/
theorem C20_close_bounded (evs : List Ev) (hnr : (runEvents {} evs).1.resetting = false) :
    (∀ r ∈ (step (step (runEvents {} evs).1 .close) .tick).reqs, r.phase = .done) ∧
    (∀ j ∈ (step (runEvents {} evs).1 .close).reqs, j.phase = .waitAck →
      (step (step (runEvents {} evs).1 .close) .tick).now = max (step (runEvents {} evs).1 .close).now j.deadline) :=
  have hg := good_step _ .close (good_reachable evs)
  have hq := rest_step _ .close (good_reachable evs) (rest_reachable evs)
  shut_tick_drains _ hg (C20_close_shuts _ hnr) hq (rest_step _ .tick hg hq)

/-- **requests in flight terminate by their timeout - one timer event at a time, every history**: if a request waits
    for its response and the clock reaches its deadline at the next timer event, the request has ended (with
    `TimeoutError`) after that event - whether the link is open, lost or closed, whatever else is going on.  With
    `C20_no_stranding` (a running request at a quiescent point waits for a pending ACK or response wait) this is the
    loss clause of the property. -/
theorem C20_response_wait_ends_at_deadline (evs : List Ev) (r : Req) (hr : r ∈ (runEvents {} evs).1.reqs)
    (hp : r.phase = .waitRsp) (hgot : r.got = .nothing) (d : Nat)
    (hnd : nextDeadline ({ (runEvents {} evs).1 with out := [] } : St) = some d)
    (hdue : r.deadline ≤ max (runEvents {} evs).1.now d) :
    ∃ r' ∈ (step (runEvents {} evs).1 .tick).reqs, r'.id = r.id ∧ r'.phase = .done :=
  response_wait_ends _ (inv2_reachable evs) r hr hp hgot d hnd hdue

/-- the task of a request always blocks or ends within six micro-steps: the fuel of the model's `runReq` (64) is never
    the reason a task stops -/
theorem C20_task_runs_to_a_stop (st : St) (i : Nat) : rank st i ≤ 5 := rank_le st i

/-! ## non-vacuity: the hypotheses of `C20_no_stranding` / `C20_close_drains` on a concrete history - three requests,
    one awaiting its ACK, two queued; close; the ACK wait expires: the loop is quiescent, nothing awaits an ACK, all ended -/
example : let st := (runEvents {} [.start 1 5 true 3 300013, .start 2 1 true 1 500026, .start 3 2 false 2 700039, .close, .tick]).1
    st.ready = [] ∧ (st.reqs.all fun r => r.phase != .waitAck) = true ∧ (st.reqs.all fun r => r.phase == .done) = true ∧
    st.isOpen = false ∧ st.listeners = [] := by decide +kernel

/-! ## non-vacuity of `C20_response_wait_ends_at_deadline`: the link is lost while request 1 awaits its response; its
    timer (300013 ms) is the next one: afterwards the request has ended with `TimeoutError` -/
example : let r := runEvents {} [.start 1 5 false 1 300013, .rxAck 0, .lost, .tick]
    r.2.getLast? = some [.done 1 .timeoutError] ∧ r.1.now = 300013 := by decide +kernel

/-! ## non-vacuity of `C20_close_bounded`: three requests (one awaiting the ACK of its first fragment, written at
    time 0, two queued); close: the loop comes to rest with request 1 still in its ACK wait; the timer fires at
    ACK_TIMEOUT (whatever the working tree sets it to): the loop comes to rest again and every request has ended -/
example : let st := (runEvents {} [.start 1 5 true 3 300013, .start 2 1 true 1 500026, .start 3 2 false 2 700039]).1
    st.resetting = false ∧ (step st .close).ready = [] ∧ (step (step st .close) .tick).ready = [] ∧
    ((step st .close).reqs.any fun r => r.phase == .waitAck) = true ∧
    (step (step st .close) .tick).now = Gen.ackTimeoutMs := by decide +kernel

/-! ## non-vacuity: close with a request awaiting its ACK and one queued: both end within the ACK wait -/
example : let r := runEvents {} [.start 1 5 true 3 300013, .start 2 1 true 1 500026, .close, .tick]
    r.2 = [[.write 1 0 0 3], [], [.closeOut], [.done 1 .runtimeError, .done 2 .runtimeError]] ∧ r.1.now = Gen.ackTimeoutMs := by
  decide +kernel

/-- **requests in flight terminate by their timers after a loss - every history**: lose the link in any reachable
    state.  After as many timer expiries as the potential `pot` of `Proofs/HostLoss.lean` counts - at most two per
    request: one acknowledgement wait, one response wait - every request has ended; none waits for anything but its own
    timers.  (Each expiry is taken at a quiescent point of the event loop - and every reachable state is one,
    `C20_loop_comes_to_rest`.) -/
theorem C20_loss_requests_end_with_their_timers (evs : List Ev) (n : Nat)
    (hn : 2 * (step (runEvents {} evs).1 .lost).reqs.length ≤ n) :
    ∀ r ∈ (ticks n (step (runEvents {} evs).1 .lost)).reqs, r.phase = .done :=
  loss_drains_at_rest n _ (good_step _ _ (good_reachable evs)) (C20_lost_once _).2
    (rest_step _ _ (good_reachable evs) (rest_reachable evs)) (Nat.le_trans (pot_le _) hn)

/-- the same from any reachable state in which the API has no uart (closed, or lost earlier), with the exact count -/
theorem C20_no_uart_requests_end_with_their_timers (evs : List Ev) (n : Nat)
    (hclosed : (runEvents {} evs).1.isOpen = false)
    (hn : pot (view (runEvents {} evs).1) ≤ n) :
    ∀ r ∈ (ticks n (runEvents {} evs).1).reqs, r.phase = .done :=
  loss_drains_at_rest n _ (good_reachable evs) hclosed (rest_reachable evs) hn

/-- every single expiry makes progress -/
theorem C20_timer_expiry_makes_progress (evs : List Ev) (hclosed : (runEvents {} evs).1.isOpen = false)
    (hrun : ∃ r ∈ (runEvents {} evs).1.reqs, r.phase ≠ .done) :
    pot (view (step (runEvents {} evs).1 .tick)) < pot (view (runEvents {} evs).1) :=
  tick_progress _ (good_reachable evs) hclosed (rest_reachable evs) hrun

/-! ## non-vacuity of `C20_loss_requests_end_with_their_timers`: three requests - request 1 (3 fragments, blocking)
    awaits the ACK of its first fragment, request 2 (blocking) queues behind it, request 3 (2 fragments) waits for the
    message lock; the link is lost.  Six timer expiries are allowed for (2 x 3 requests), every one is taken at a
    quiescent point, and all three requests have ended; the first expiry (the ACK wait) already ends all of them. -/
example : let st := step (runEvents {} [.start 1 5 true 3 300013, .start 2 1 true 1 500026, .start 3 2 false 2 700039]).1 .lost
    (∀ k, k < 6 → (ticks k st).ready = []) ∧ 2 * st.reqs.length ≤ 6 ∧ ((ticks 6 st).reqs.all fun r => r.phase == .done) = true ∧
    pot (view st) = 4 ∧ pot (view (ticks 1 st)) = 0 := by decide +kernel

/-! ## ... and with requests that outlive the loss until their own response timeouts: request 1 is fully acknowledged
    and awaits its response (300013 ms), request 2 awaits the ACK of its only fragment: the expiries come at
    ACK_TIMEOUT (request 2 goes on to await its response), at 300013 ms (request 1 ends) and at request 2's deadline -/
example : let st := step (runEvents {} [.start 1 5 false 1 300013, .rxAck 0, .start 2 1 false 1 500026]).1 .lost
    (∀ k, k < 4 → (ticks k st).ready = []) ∧ pot (view st) = 3 ∧ pot (view (ticks 1 st)) = 2 ∧ pot (view (ticks 2 st)) = 1 ∧
    pot (view (ticks 3 st)) = 0 ∧ ((ticks 3 st).reqs.all fun r => r.phase == .done) = true := by decide +kernel

/-- **`connect()` on the same object opens a fresh connection**: the API is open again, the packet numbering starts at
    0, and nothing else changes - no request, no listener, nothing written, nobody woken -/
theorem C20_connect_reopens (st : St) (hclosed : st.isOpen = false) :
    (step st .connect).isOpen = true ∧ (step st .connect).transport = true ∧ (step st .connect).pack = 0 ∧
    (step st .connect).reqs = st.reqs ∧ (step st .connect).listeners = st.listeners ∧ (step st .connect).out = [] ∧
    (step st .connect).gen = st.gen + 1 := by
  simp [step, hclosed]

/-- ... and an acknowledgement that arrives on the new connection does not end the wait of a sender that is still
    waiting on the old one (it waits on the old protocol object's event): its wait ends by expiry -/
theorem C20_ack_on_new_connection (st : St) (k : Nat) (r : Req) (hr : r ∈ st.reqs) (hp : r.phase = .waitAck)
    (hg : r.gen ≠ st.gen) : r ∈ (pre st (.rxAck k)).1.reqs := by
  rw [pre_rxAck]
  exact ite_both (List.mem_map.mpr ⟨r, hr, if_neg (by simp [hp, hg])⟩) hr

/-! ## non-vacuity: a 3-fragment request is interrupted by `close()` after its first fragment; `connect()` follows while it
    still sits in its acknowledgement wait; an ACK 0 on the new connection leaves it waiting (but moves the new
    connection's numbering to 1); when its wait expires it goes on with fragments 1 and 2 - stamped with the new
    connection's number - under the message lock, and ends cancelled (its response future was cancelled by the close);
    only then is the new request 2 written -/
example : let r := runEvents {} [.start 1 5 false 3 300013, .close, .connect, .start 2 1 false 1 500026, .rxAck 0, .tick, .tick, .tick]
    (r.2.map fun l => l.filter isWD) = [[.write 1 0 0 3], [], [], [], [], [.write 1 1 1 3], [.write 1 2 1 3],
      [.done 1 .cancelled, .write 2 0 1 1]] ∧ r.1.gen = 1 ∧ r.1.isOpen = true := by
  decide +kernel

end Zboss.Host
