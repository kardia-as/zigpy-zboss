import ZbossModel.Proofs.Dispatch
/-! # C12 - a response resolves only the oldest matching waiter and every matching callback

The theorems about one dispatch read their claim off the closed form of the loop, those about whole histories off the
conservation law for the ids of pending waiters (both in `Proofs/Dispatch.lean`). -/
namespace Zboss.Dispatch
open Match

/-- a match implies registration under the command's header: a waiter or callback for a different
    command type can never react -/
theorem C12_match_same_type (ps : List Cmd) (c : Cmd) (h : anyMatch ps c = true) :
    ∃ p ∈ ps, p.ty = c.ty ∧ «matches» p c = true := by
  obtain ⟨p, hp, hm⟩ := List.any_eq_true.mp h
  exact ⟨p, hp, ty_of_matches hm, hm⟩

/-- **oldest matching waiter**: the dispatch resolves a one-shot waiter iff an eligible one exists, and then
    exactly the first eligible one in registration order, with the command received -/
theorem C12_oneshot (c : Cmd) (t : Table) :
    (∀ i d, Out.resolved i d ∈ (dispatch c t false).2 →
        d = c ∧ ∃ pre l post, t = pre ++ l :: post ∧ l.id = i ∧ eligible c l = true ∧ ∀ l' ∈ pre, eligible c l' = false) ∧
    ((∃ l ∈ t, eligible c l = true) → ∃ i, Out.resolved i c ∈ (dispatch c t false).2) := by
  rcases dispatch_false c t with ⟨hno, h⟩ | ⟨pre, l, post, ht, hpre, hl, h⟩ <;> rw [h]
  · exact ⟨fun i d hm => absurd hm (resolved_not_mem_calls _ _ _ _), fun ⟨l, hl, he⟩ => by simp [hno l hl] at he⟩
  · refine ⟨fun i d hm => ?_, fun _ => ⟨l.id, by simp⟩⟩
    obtain ⟨rfl, rfl⟩ : i = l.id ∧ d = c := by simpa [resolved_not_mem_calls] using hm
    exact ⟨rfl, pre, l, post, ht, rfl, hl, hpre⟩

/-- at most one waiter is resolved per received command -/
theorem C12_at_most_one (c : Cmd) (t : Table) (osm : Bool) :
    ((dispatch c t osm).2.filter fun o => match o with | .resolved _ _ => true | _ => false).length ≤ 1 := by
  have hc : ∀ t, (calls c t).filter (fun o => match o with | .resolved _ _ => true | _ => false) = [] := fun t =>
    List.filter_eq_nil_iff.2 fun o ho => by obtain ⟨l, _, rfl⟩ := List.mem_map.1 ho; exact Bool.false_ne_true
  cases osm with
  | true => rw [dispatch_true, hc]; exact Nat.zero_le 1
  | false =>
    rcases dispatch_false c t with ⟨_, h⟩ | ⟨pre, l, post, _, _, _, h⟩ <;> rw [h]
    · rw [hc]; exact Nat.zero_le 1
    · rw [List.filter_append, hc, List.filter_cons_of_pos rfl, hc]; exact Nat.le_refl 1

/-- **callbacks**: the callbacks invoked are exactly the registered callbacks whose pattern list matches,
    in registration order, each with the received command -/
theorem C12_callbacks (c : Cmd) (t : Table) (osm : Bool) :
    (dispatch c t osm).2.filterMap (fun o => match o with | .called i d => some (i, d) | _ => none) =
      (t.filter fun l => l.kind == .callback && anyMatch l.patterns c).map (fun l => (l.id, c)) := by
  have hc : ∀ t, (calls c t).filterMap (fun o => match o with | .called i d => some (i, d) | _ => none) =
      (t.filter fun l => l.kind == .callback && anyMatch l.patterns c).map (fun l => (l.id, c)) := fun t => by
    rw [calls, List.filterMap_map]; exact congrFun (List.filterMap_eq_map (f := fun l : Listener => (l.id, c))) _
  cases osm with
  | true => rw [dispatch_true, hc]
  | false =>
    rcases dispatch_false c t with ⟨_, h⟩ | ⟨pre, l, post, rfl, _, hl, h⟩ <;> rw [h]
    · exact hc t
    · -- the resolved waiter is no callback
      rw [List.filterMap_append, List.filterMap_cons_none rfl, hc, hc, List.filter_append,
        List.filter_cons_of_neg (by rw [(eligible_pend hl).1]; exact Bool.false_ne_true), List.map_append]

/-- the listener table keeps its length and ids through a dispatch: removal of finished one-shot
    listeners is deferred to the end of the event-loop step, so several commands received in one step
    see the resolved waiter as done and pass on to the next one -/
theorem C12_dispatch_keeps_ids (c : Cmd) (t : Table) (osm : Bool) :
    (dispatch c t osm).1.map (·.id) = t.map (·.id) := by
  cases osm with
  | true => rw [dispatch_true]
  | false => rcases dispatch_false c t with ⟨_, h⟩ | ⟨pre, l, post, rfl, _, _, h⟩ <;> simp [h]

/-! ## whole histories

    `future.set_result` on a future that is already done raises `InvalidStateError`; that no history of registrations,
    cancellations, receptions and event-loop step ends (with removal of finished listeners deferred to the step end, so
    that several commands can arrive in one step) ever resolves a waiter twice, or after its cancellation, is therefore
    what keeps `frame_received` from raising.  Registration ids stand for listener object identities: fresh. -/

/-- **at most once over the whole history**: whatever the history of registrations (fresh listener identities),
    cancellations, received commands and event-loop step ends, no waiter is ever resolved twice -/
theorem C12_history_resolved_once (evs : List Ev) (hfresh : (regIds evs).Nodup) :
    (resolvedIds (runEvents [] evs).2).Nodup :=
  resolved_once [] evs hfresh

/-- **never after cancellation, never after resolution**: once a registered waiter has been cancelled (`a`, then
    `cancel i`), nothing in the rest `b` of the history resolves it - so `set_result` is never called on a done future -/
theorem C12_history_never_after_cancel (a b : List Ev) (i : Nat) (hfresh : (regIds (a ++ .cancel i :: b)).Nodup)
    (hi : i ∈ regIds a) :
    i ∉ resolvedIds (runEvents (step (runEvents [] a).1 (.cancel i)).1 b).2 := by
  have : regIds (a ++ .cancel i :: b) = regIds a ++ regIds b := by simp [regIds, regOf]
  rw [this] at hfresh
  exact never_after_cancel _ b i fun h => (List.nodup_append.mp hfresh).2.2 i hi i h rfl

/-- the outputs of a history split at any point: what follows a prefix is the run from the table the prefix leaves -/
theorem C12_history_split (a b : List Ev) :
    (runEvents [] (a ++ b)).2 = (runEvents [] a).2 ++ (runEvents (runEvents [] a).1 b).2 := by
  rw [runEvents_append]

/-- non-vacuity: a waiter cancelled before its response arrives is passed over - the next waiter gets it; a second,
    identical response in the same event-loop step finds nobody -/
example : (runEvents [] [.waiter 1 [⟨7, [none]⟩], .waiter 2 [⟨7, [none]⟩], .cancel 1, .receive ⟨7, [some 5]⟩,
    .receive ⟨7, [some 5]⟩, .settle, .receive ⟨7, [some 5]⟩]).2.drop 3 =
    [[.resolved 2 ⟨7, [some 5]⟩], [], [], []] := by decide
example : (regIds [.waiter 1 [⟨7, [none]⟩], .waiter 2 [⟨7, [none]⟩], .cancel 1, .receive ⟨7, [some 5]⟩]).Nodup := by decide

/-! ## the request machine's waiters

    The request machine (`Host.lean`, properties C11 / C13 / C14 / C20) keeps the waiters of running requests as a list of
    `(request id, command)` pairs, resolves a response by `find?` on the command and drops the waiter by `filter` on the id.
    Every request waits with the all-wildcard pattern of its response class (`Rsp(partial=True)`), so that list is the
    listener table below; the two theorems say that the request machine's two list operations are exactly what `dispatch`
    and the deferred removal do on it - the abstraction used by the concurrency theorems is a refinement of this model. -/

def requestTable (ls : List (Nat × Nat)) : Table := ls.map fun l => ⟨l.1, .oneShot, [⟨l.2, []⟩], false⟩

/-- **who is resolved**: on the table of request waiters a received response resolves exactly the waiter the request
    machine picks - the first one registered for that command - and nobody if there is none -/
theorem C12_request_waiters (ls : List (Nat × Nat)) (key : Nat) (ps : List (Option Nat)) :
    resolvedOf (dispatch ⟨key, ps⟩ (requestTable ls) false).2 = ((ls.find? fun l => l.2 == key).map (·.1)).toList := by
  rw [resolvedOf_dispatch, requestTable, List.find?_map]
  simp only [Function.comp_def, eligible_request, Option.map_map]

/-- **what is left**: after the dispatch and the deferred removal of finished waiters the table is the request machine's
    list with the resolved request's waiter filtered out (request ids are pairwise distinct) -/
theorem C12_request_waiters_table (ls : List (Nat × Nat)) (key : Nat) (ps : List (Option Nat)) (hn : (ls.map (·.1)).Nodup) :
    ((dispatch ⟨key, ps⟩ (requestTable ls) false).1.filter fun l => !l.done) =
      match ls.find? fun l => l.2 == key with
      | none => requestTable ls
      | some (i, _) => requestTable (ls.filter (·.1 != i)) := by
  have hall : ∀ ls, (requestTable ls).filter (fun l => !l.done) = requestTable ls := fun ls =>
    List.filter_eq_self.mpr (by rintro _ h; obtain ⟨_, _, rfl⟩ := List.mem_map.mp h; rfl)
  induction ls with
  | nil => rfl
  | cons x rest ih =>
    obtain ⟨hx, hn⟩ := List.nodup_cons.mp hn
    rw [requestTable, List.map_cons, dispatch_cons, eligible_request, List.find?_cons, ← requestTable]
    cases hk : x.2 == key
    · -- `x` stays; the waiter found in `rest` has another id, so filtering on it keeps `x`
      cases hf : rest.find? (fun l => l.2 == key) with
      | none => simp [ih hn, hf]
      | some p =>
        have : x.1 ≠ p.1 := fun h => hx (List.mem_map.mpr ⟨p, List.mem_of_find?_eq_some hf, h.symm⟩)
        simp [ih hn, hf, this]; rfl
    · -- `x` is resolved and removed; nothing else in `rest` has its id
      have : rest.filter (·.1 != x.1) = rest :=
        List.filter_eq_self.mpr fun a ha => by simpa using fun h => hx (List.mem_map.mpr ⟨a, ha, h⟩)
      simp [dispatch_true, hall, this]

example : resolvedOf (dispatch ⟨7, [some 5]⟩ (requestTable [(1, 8), (2, 7), (3, 7)]) false).2 = [2] := by decide

/-! ## non-vacuity: two waiters for the same command, a callback, a waiter for another command;
    two identical responses in one event-loop step go to the two waiters in order -/
example : (runEvents [] [.waiter 1 [⟨7, [none]⟩], .waiter 2 [⟨7, [some 5]⟩], .callback 3 [⟨7, [none]⟩],
    .waiter 4 [⟨8, [none]⟩], .receive ⟨7, [some 5]⟩, .receive ⟨7, [some 5]⟩, .receive ⟨7, [some 5]⟩]).2.drop 4 =
    [[.resolved 1 ⟨7, [some 5]⟩, .called 3 ⟨7, [some 5]⟩], [.resolved 2 ⟨7, [some 5]⟩, .called 3 ⟨7, [some 5]⟩],
     [.called 3 ⟨7, [some 5]⟩]] := by decide

end Zboss.Dispatch
