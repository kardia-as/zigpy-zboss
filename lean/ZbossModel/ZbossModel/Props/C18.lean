import ZbossModel.App
import ZbossModel.Generated.Exprs
/-! # C18 - packets and bind requests cross the radio boundary faithfully, both ways -/
namespace Zboss.App
open Gen Codec

theorem sendPacket_req (p : Packet) (hzdo : p.srcEp ≠ some 0 ∧ p.dstEp ≠ some 0)
    (haddr : p.dstMode = Gen.addrModeIEEE ∨ p.dstAddr < 65536) :
    sendPacket p = .req
      { tsn := p.tsn, paramLength := 21, dataLength := p.data.length,
        dstAddr := if p.dstMode = Gen.addrModeIEEE then p.dstIeee
          else [UInt8.ofNat (p.dstAddr % 256), UInt8.ofNat (p.dstAddr / 256), 0, 0, 0, 0, 0, 0],
        profile := p.profile, cluster := p.cluster, dstEp := orZero p.dstEp, srcEp := orZero p.srcEp,
        radius := orZero p.radius,
        dstMode := if p.dstMode = Gen.addrModeBroadcast then Gen.addrModeGroup else p.dstMode,
        txOptions := (if p.txOptions &&& Gen.zigpyTxAck ≠ 0 then Gen.zbossTxAck else 0) |||
          (if p.txOptions &&& Gen.zigpyTxEnc ≠ 0 then Gen.zbossTxSec else 0),
        useAlias := 0, aliasSrc := 0, aliasSeq := 0, payload := p.data } := by
  have h1 : ¬ (p.srcEp = some 0 ∨ p.dstEp = some 0) := fun h => h.elim hzdo.1 hzdo.2
  have h2 : (!decide (p.dstMode = Gen.addrModeIEEE) && decide (p.dstAddr ≥ 65536)) = false := by
    rcases haddr with h | h
    · simp [h]
    · simp; intro _; omega
  simp only [sendPacket, h1, if_false, h2, Bool.false_eq_true]

theorem fromLE_le16 (n : Nat) (h : n < 65536) : fromLE [UInt8.ofNat (n % 256), UInt8.ofNat (n / 256)] = n := by
  have := fromLE_toLE 2 n h
  rwa [toLE, toLE, toLE, Nat.mod_eq_of_lt (a := n / 256) (Nat.div_lt_of_lt_mul h)] at this

/-- **packet → data request, field by field**: a packet whose endpoints are not the ZDO endpoint and whose
    16-bit address fits becomes exactly one data request that carries the payload unchanged, its length, the
    fixed parameter-section length 21, the same endpoints (absent = 0), cluster, profile and sequence number -/
theorem C18_send_fields (p : Packet) (hzdo : p.srcEp ≠ some 0 ∧ p.dstEp ≠ some 0)
    (haddr : p.dstMode = Gen.addrModeIEEE ∨ p.dstAddr < 65536) :
    ∃ r, sendPacket p = .req r ∧ r.payload = p.data ∧ r.dataLength = p.data.length ∧ r.paramLength = 21 ∧
      r.dstEp = orZero p.dstEp ∧ r.srcEp = orZero p.srcEp ∧ r.cluster = p.cluster ∧ r.profile = p.profile ∧
      r.tsn = p.tsn ∧ r.radius = orZero p.radius :=
  ⟨_, sendPacket_req p hzdo haddr, rfl, rfl, rfl, rfl, rfl, rfl, rfl, rfl, rfl⟩

/-- the 21 of `ParamLength` is the serialized size of the parameters between `DataLength` and `Payload` in
    the *regenerated* schema of the data request (header 0x03010000 = APS.DataReq.Req) -/
theorem C18_param_section_21 :
    ((Gen.commands.map viewOf).filter (fun v => v.header == 0x03010000)).map
      (fun v => (((v.fields.drop 3).dropLast).map (fun f => minSize f.wt)).sum) = [21] := by
  decide +kernel

/-- **destination, 16-bit modes**: the address is little-endian in the first two address bytes, the rest zero -/
theorem C18_dst_addr_le (p : Packet) (hzdo : p.srcEp ≠ some 0 ∧ p.dstEp ≠ some 0)
    (hm : p.dstMode ≠ Gen.addrModeIEEE) (haddr : p.dstAddr < 65536) :
    ∃ r, sendPacket p = .req r ∧ fromLE (r.dstAddr.take 2) = p.dstAddr ∧ r.dstAddr.drop 2 = [0, 0, 0, 0, 0, 0] ∧
      r.dstAddr.length = 8 := by
  refine ⟨_, sendPacket_req p hzdo (.inr haddr), ?_⟩
  simp only [if_neg hm]
  exact ⟨fromLE_le16 _ haddr, rfl, rfl⟩

/-- **destination, 64-bit mode**: the address bytes are passed through unchanged, the mode stays IEEE -/
theorem C18_ieee_unchanged (p : Packet) (hzdo : p.srcEp ≠ some 0 ∧ p.dstEp ≠ some 0) (hm : p.dstMode = Gen.addrModeIEEE) :
    ∃ r, sendPacket p = .req r ∧ r.dstAddr = p.dstIeee ∧ r.dstMode = Gen.addrModeIEEE := by
  refine ⟨_, sendPacket_req p hzdo (.inl hm), if_pos hm, ?_⟩
  simp only [hm]
  rfl

/-- **options and addressing mode**: acknowledgement / encryption requests are preserved (and nothing else is
    set); broadcasts are sent in group mode, every other mode is kept -/
theorem C18_options_and_mode (p : Packet) (r : DataReq) (h : sendPacket p = .req r) :
    (r.txOptions &&& Gen.zbossTxAck ≠ 0 ↔ p.txOptions &&& Gen.zigpyTxAck ≠ 0) ∧
    (r.txOptions &&& Gen.zbossTxSec ≠ 0 ↔ p.txOptions &&& Gen.zigpyTxEnc ≠ 0) ∧
    r.txOptions ≤ (Gen.zbossTxAck ||| Gen.zbossTxSec) ∧
    r.dstMode = (if p.dstMode = Gen.addrModeBroadcast then Gen.addrModeGroup else p.dstMode) := by
  -- a request comes out behind the two guards of `sendPacket` only
  by_cases hzdo : p.srcEp = some 0 ∨ p.dstEp = some 0
  · rw [sendPacket, if_pos hzdo] at h; cases h
  rw [sendPacket, if_neg hzdo] at h
  by_cases haddr : (!decide (p.dstMode = Gen.addrModeIEEE) && decide (p.dstAddr ≥ 65536)) = true
  · simp only [haddr, if_true] at h; cases h
  simp only [haddr] at h
  cases h
  -- its option word is built from two independent bits: all four combinations
  have hbits : ∀ a e : Bool, let o := (if a then Gen.zbossTxAck else 0) ||| (if e then Gen.zbossTxSec else 0)
      (o &&& Gen.zbossTxAck ≠ 0 ↔ a = true) ∧ (o &&& Gen.zbossTxSec ≠ 0 ↔ e = true) ∧
        o ≤ Gen.zbossTxAck ||| Gen.zbossTxSec := by decide
  have := hbits (decide (p.txOptions &&& Gen.zigpyTxAck ≠ 0)) (decide (p.txOptions &&& Gen.zigpyTxEnc ≠ 0))
  simp only [decide_eq_true_eq] at this
  exact ⟨this.1, this.2.1, this.2.2, rfl⟩

/-- **indication → packet**: an indication carrying at least two payload bytes is delivered with the same
    source, endpoints, cluster, profile, link quality and exactly the first `PayloadLength` bytes; addressed
    as broadcast, group or unicast according to the frame-control bits (broadcast bit first) -/
theorem C18_indication (own : Nat) (m : Indication) (h2 : 2 ≤ m.payload.length) :
    ∃ k, onIndication own m = some k ∧ k.srcAddr = m.srcAddr ∧ k.srcEp = m.srcEp ∧ k.dstEp = m.dstEp ∧
      k.cluster = m.cluster ∧ k.profile = m.profile ∧ k.lqi = m.lqi ∧ k.rssi = m.rssi ∧
      k.data = m.payload.take m.payloadLength ∧
      (k.dstMode, k.dstAddr) =
        (if m.frameFC &&& Gen.fcBroadcast ≠ 0 then (Gen.addrModeBroadcast, Gen.broadcastAllRouters)
         else if m.frameFC &&& Gen.fcGroup ≠ 0 then (Gen.addrModeGroup, m.grpAddr)
         else (Gen.addrModeNWK, own)) := by
  unfold onIndication
  simp only [Nat.not_lt.2 h2, if_false]
  refine ⟨_, rfl, rfl, rfl, rfl, rfl, rfl, rfl, rfl, rfl, ?_⟩
  by_cases hb : m.frameFC &&& Gen.fcBroadcast ≠ 0 <;> by_cases hg : m.frameFC &&& Gen.fcGroup ≠ 0 <;> simp [hb, hg]

def seqAfter : Nat → Nat → Nat
  | 0, s => s
  | n + 1, s => seqAfter n (nextSeq s)

/-- **sequence numbers are never 255**: after any number of calls from any legal start value -/
theorem C18_seq_never_255 (s : Nat) (n : Nat) : seqAfter (n + 1) s < 255 := by
  induction n generalizing s with
  | zero => simp only [seqAfter, nextSeq]; exact Nat.mod_lt _ (by decide)
  | succ n ih => rw [seqAfter]; exact ih (nextSeq s)

/-- they run 1, 2, …, 254, 0, 1, … -/
theorem C18_seq_step (s : Nat) (h : s < 255) : nextSeq s = if s = 254 then 0 else s + 1 := by
  unfold nextSeq
  by_cases h254 : s = 254
  · subst h254; rfl
  · rw [if_neg h254]; exact Nat.mod_eq_of_lt (by omega)

/-- **bind / unbind**: a 64-bit destination is forwarded unchanged, a group destination as its little-endian
    16-bit address padded with zeros; source address, endpoint, cluster are those given, an absent endpoint is 0.
    `Bind_req` and `Unbind_req` are this same map (they differ in the command class only) -/
theorem C18_bind (tsn tn : Nat) (src : Bytes) (sep cl : Nat) (d : BindDst) :
    (d.mode = Gen.addrModeIEEE →
      bindReq tsn tn src sep cl d = some ⟨tsn, tn, src, sep, cl, Gen.bindModeIEEE, d.ieee, orZero d.endpoint⟩) ∧
    (d.mode = Gen.addrModeGroup → d.nwk < 65536 →
      ∃ r, bindReq tsn tn src sep cl d = some r ∧ r.srcIeee = src ∧ r.srcEp = sep ∧ r.cluster = cl ∧
        r.dstAddrMode = Gen.bindModeGroup ∧ fromLE (r.dstAddr.take 2) = d.nwk ∧ r.dstAddr.drop 2 = [0, 0, 0, 0, 0, 0] ∧
        r.dstEp = orZero d.endpoint) := by
  constructor
  · intro h; simp [bindReq, h]
  · intro h hn
    simp only [bindReq, h, if_false, if_true, Nat.not_le.2 hn]
    exact ⟨_, rfl, rfl, rfl, rfl, rfl, fromLE_le16 _ hn, rfl, rfl⟩

/-! ## non-vacuity -/
example : ∃ r, sendPacket ⟨15, 0xFFFD, [], some 1, none, 9, 260, 6, none, 3, [1, 2, 3]⟩ = .req r ∧ r.dstMode = 1 ∧
    r.txOptions = 5 ∧ r.dstAddr = [0xFD, 0xFF, 0, 0, 0, 0, 0, 0] := ⟨_, rfl, rfl, rfl, rfl⟩

/-- **source tie (translator 4)**: the expression `get_sequence` assigns - translated from the Python ast on every
    run - is the model's `nextSeq`, for every current value -/
theorem C18_source_exprs (s : Nat) : Gen.nextSendSeqExpr s = ((nextSeq s : Nat) : Int) :=
  (Int.natCast_emod (s + 1) 255).symm

end Zboss.App
