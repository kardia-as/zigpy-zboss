import ZbossModel.Proofs.Link
import ZbossModel.Proofs.Run
import ZbossModel.Proofs.Frame
import ZbossModel.Generated.Exprs
/-! # C08 - packet sequence numbers advance 0,1,2,3,1,2,3.. exactly on matching ACKs -/
namespace Zboss.Link
open Gen Rx

/-- **the automaton**: an accepted acknowledgement carrying the current number steps `n ↦ n % 3 + 1`
    (0 → 1 → 2 → 3 → 1 …); any other accepted frame - an ACK with another number, a data frame -
    leaves it unchanged -/
theorem C08_ack_step (he : Bool) (n : Nat) (ev : Bool) (f : Frame) :
    (ackStep he (n, ev) f).1 = (if isAck f ∧ ackSeqOf f = n then n % 3 + 1 else n) :=
  ackStep_fst he (n, ev) f

/-- **every event**: the number after an event is the fold of `ackStep` over the frames accepted from the
    received bytes, 0 after `close`, and unchanged by send, expiry of the ACK wait, cancellation, reconnect -/
theorem C08_seq_step (st : St) (e : Ev) :
    (step st e).1.rx.packSeq =
      match e with
      | .rx data => ((run tryFrame (st.rx.buf ++ data)).1.foldl (ackStep st.rx.hasEvent)
                      (st.rx.packSeq, st.rx.eventSet)).1
      | .close => 0
      | _ => st.rx.packSeq := by
  -- `grant`, hence `release`, leaves the number alone (`grant_packSeq`); what is left is the event's own effect
  cases e with
  | rx data =>
    simp only [← dataReceived_seq (fun _ => false) st.rx data, step]
    cases st.holder with
    | none => rfl
    | some h => simp only []; split <;> simp [release, grant_packSeq]
  | cancel i =>
    simp only [step]
    cases st.holder with
    | none => rfl
    | some h =>
      simp only []; split
      · simp [release, grant_packSeq]
      · split <;> rfl
  | send i f => cases hh : st.holder <;> simp [step, hh, grant_packSeq]
  | tick => cases hh : st.holder <;> simp [step, hh, release, grant_packSeq]
  | close | reconnect => rfl

/-- incoming data frames (no ACK among the accepted frames) never move the number -/
theorem C08_data_frames_dont_move (st : St) (data : Bytes)
    (h : ∀ f ∈ (run tryFrame (st.rx.buf ++ data)).1, isAck f = false) :
    (step st (.rx data)).1.rx.packSeq = st.rx.packSeq := by
  rw [C08_seq_step]
  exact congrArg Prod.fst (fold_ackStep_noack _ _ _ h)

theorem runEvents_packSeq (st : St) (evs : List Ev) (h : st.rx.packSeq ≤ 3) : (runEvents st evs).1.rx.packSeq ≤ 3 := by
  refine runLog_induction step (fun st _ => st.rx.packSeq ≤ 3) st evs h fun st _ e h => ?_
  rw [C08_seq_step]
  cases e with
  | rx data => exact fold_ackStep_range _ _ _ h
  | close => exact Nat.zero_le 3
  | _ => exact h

/-- **range**: from a fresh protocol object, after any event history the number is one of 0,1,2,3 -/
theorem C08_range (evs : List Ev) : (runEvents {} evs).1.rx.packSeq ≤ 3 := runEvents_packSeq {} evs (by decide)

/-- it is 0 only until the first matching acknowledgement: once non-zero, an accepted frame keeps it non-zero -/
theorem C08_zero_only_initially (he : Bool) (s : Nat × Bool) (f : Frame) (h3 : s.1 ≤ 3) (h1 : 1 ≤ s.1) :
    1 ≤ (ackStep he s f).1 := by
  rw [ackStep_fst]; split
  · exact Nat.le_add_left 1 _
  · exact h1

/-- **stamping**: a frame that goes out on an idle, connected link is written as `stamp (current number)`,
    i.e. (C05_frame_wf) flags = original | seq<<2 with a header checksum valid for the stamped flags -/
theorem C08_stamp (st : St) (i : Nat) (f : Frame) (hidle : st.holder = none) (hq : st.queue = [])
    (ht : st.rx.transport = true) :
    (step st (.send i f)).2 = [.wire (Frame.stamp st.rx.packSeq f).serialize, .wrote i st.rx.packSeq] := by
  simp [step, hidle, hq, grant, ht]

theorem C08_stamp_bytes (fl seq n : Nat) (p : HLPacket) (hn : n = p.serialize.length + 5) (hlen : n ≤ 65535) :
    ((Frame.stamp seq (Frame.mkData fl p n)).serialize.take 7) =
      [0xDE, 0xAD] ++ toLE 2 n ++
        [6, UInt8.ofNat (wireFlags fl seq), Crc.crc8B (toLE 2 n ++ [6, UInt8.ofNat (wireFlags fl seq)])] := by
  rw [(Frame.serialize_stamp_mkData fl seq n p hn hlen).1, List.append_assoc]
  exact List.take_left' rfl

/-! ## non-vacuity: the cycle 0 → 1 → 2 → 3 → 1 on four matching ACKs (bytes of `Frame.ack k`) -/
example : (runEvents {} [.rx (Frame.ack 0 false).serialize, .rx (Frame.ack 1 false).serialize,
    .rx (Frame.ack 2 false).serialize, .rx (Frame.ack 2 false).serialize, .rx (Frame.ack 3 false).serialize]).1.rx.packSeq = 1 := by
  decide +kernel

/-- **source tie (translator 4)**: the expression `data_received` assigns to the sequence number on a matching
    ACK, the shift `_set_frame_flag` applies to it and the way the ACK's number is taken out of the flags - all
    translated from the Python ast on every run - are the model's, for every argument -/
theorem C08_source_exprs (s flags : Nat) (hs : s < 4) (hf : flags < 256) :
    Gen.nextPackSeqExpr s = ((s % 3 + 1 : Nat) : Int) ∧
    Gen.stampSeqExpr s = s <<< 2 ∧
    Gen.ackSeqOfFlagsExpr flags = (flags &&& Gen.flagACKSeq) >>> 4 := by
  -- sequence numbers are two bits, flags one byte: decided over the whole domain, so that any equivalent way of
  -- writing the shift / mask expressions in the source still checks
  have h1 : ∀ s, s < 4 → Gen.stampSeqExpr s = s <<< 2 := by decide +kernel
  have h2 : ∀ f, f < 256 → Gen.ackSeqOfFlagsExpr f = (f &&& Gen.flagACKSeq) >>> 4 := by decide +kernel
  refine ⟨?_, h1 s hs, h2 flags hf⟩
  unfold Gen.nextPackSeqExpr; omega

end Zboss.Link
