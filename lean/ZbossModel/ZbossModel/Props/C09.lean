import ZbossModel.Proofs.Frag
import ZbossModel.Proofs.Frame
import ZbossModel.Generated.Exprs
/-! # C09 - outgoing fragmentation partitions any message exactly, within the size limit

`Frag.fragments (Frag.whole p) p` is the model of `to_frame().handle_tx_fragmentation()`
for the packet `p` (command header + parameter bytes).  All statements are for every
header and every payload of any length. -/
namespace Zboss.Frag
open Gen

/-- the size limit is the protocol's 247 bytes (regenerated constant) -/
theorem C09_body_max : Gen.bodyMax = 247 := rfl

/-- `n = p.body.length + 7` is what all `_create_*` helpers and `to_frame` declare -/
theorem mkData_facts (fl n : Nat) (p : HLPacket) (hn : n = p.body.length + 7) (hlen : n ≤ 65535) :
    bodyOf (Frame.mkData fl p n) = p.body ∧ LL.size (Frame.mkData fl p n).ll = n ∧
    (Frame.mkData fl p n).serialize.length = n + 2 ∧ LL.flags (Frame.mkData fl p n).ll = fl % 256 := by
  refine ⟨rfl, ?_, ?_, ?_⟩
  · simp [Frame.mkData, LL.base]; exact Nat.lt_succ_of_le hlen
  · rw [Frame.mkData, Frame.serialize, List.length_append, LL.bytes_length, p.serialize_length, hn, Nat.add_comm 7]
  · simp [Frame.mkData]

/-- `_create_frag` calls no `with_flags`; the flags of the base header are 0 already -/
theorem midFrag_eq_mkData (ser : Bytes) (idx : Nat) :
    midFrag ser idx = Frame.mkData 0 ⟨none, slice ser idx (idx + Gen.bodyMax)⟩ (Gen.bodyMax + 7) := by
  have hz : LL.flags (LL.base (Gen.bodyMax + 7)) = 0 := by simp [LL.base]; exact LL.zero_fields.2.2.2.1
  rw [midFrag, Frame.mkData, ← hz, LL.withFlags_flags]

/-- a message whose body fits is sent as one frame carrying both flags -/
theorem C09_single (p : HLPacket) (hfit : p.body.length ≤ Gen.bodyMax) :
    fragments (whole p) p = [whole p] ∧ LL.flags (whole p).ll = 0xC0 := by
  constructor
  · unfold fragments count ceilDiv
    have : (p.body.length + Gen.bodyMax - 1) / Gen.bodyMax ≤ 1 :=
      Nat.le_of_lt_succ (Nat.div_lt_of_lt_mul (Nat.add_lt_add_right (Nat.lt_succ_of_le hfit) 246))
    simp [this]
  · simp [whole, Frame.mkData]; decide

theorem firstFrag_facts (h : HLH) (hh : h ≠ 0#32) (data : Bytes) (first : Nat) (h4 : 4 ≤ first) (h247 : first ≤ 247)
    (hd : first ≤ 4 + data.length) :
    bodyOf (firstFrag ⟨some h, data⟩ first) = (HLH.bytes h ++ data).take first ∧
    ((HLH.bytes h ++ data).take first).length = first ∧
    LL.size (firstFrag ⟨some h, data⟩ first).ll = first + 7 ∧
    (firstFrag ⟨some h, data⟩ first).serialize.length = first + 9 ∧
    LL.flags (firstFrag ⟨some h, data⟩ first).ll = 0x40 := by
  have hb : (HLPacket.mk (some h) (data.take (first - 4))).body = (HLH.bytes h ++ data).take first := by
    rw [HLPacket.body_some h hh, List.take_append, HLH.bytes_length, List.take_of_length_le (l := HLH.bytes h)]
    rw [HLH.bytes_length]; exact h4
  have hl : ((HLH.bytes h ++ data).take first).length = first := by
    rw [List.length_take, List.length_append, HLH.bytes_length, Nat.min_eq_left hd]
  obtain ⟨b1, b2, b3, b4⟩ := mkData_facts Gen.flagFirstFrag (first + 7) ⟨some h, data.take (first - 4)⟩
    (by rw [hb, hl]) (by omega)
  exact ⟨b1.trans hb, hl, b2, b3, b4⟩

theorem midFrag_facts (ser : Bytes) (idx : Nat) (hwin : idx + 247 ≤ ser.length) :
    bodyOf (midFrag ser idx) = slice ser idx (idx + 247) ∧
    (slice ser idx (idx + 247)).length = 247 ∧
    LL.size (midFrag ser idx).ll = 254 ∧
    (midFrag ser idx).serialize.length = 256 ∧
    LL.flags (midFrag ser idx).ll = 0 := by
  have hlen : (slice ser idx (idx + 247)).length = 247 := slice_length ser idx 247 hwin
  obtain ⟨b1, b2, b3, b4⟩ := mkData_facts 0 (Gen.bodyMax + 7) ⟨none, slice ser idx (idx + Gen.bodyMax)⟩
    (congrArg (· + 7) hlen.symm) (by decide)
  rw [midFrag_eq_mkData]
  exact ⟨b1, hlen, b2, b3, b4⟩

theorem lastFrag_facts (tail : Bytes) (hl : tail.length ≤ 247) :
    bodyOf (lastFrag tail) = tail ∧ LL.size (lastFrag tail).ll = tail.length + 7 ∧
    (lastFrag tail).serialize.length = tail.length + 9 ∧ LL.flags (lastFrag tail).ll = 0x80 :=
  mkData_facts Gen.flagLastFrag (tail.length + 7) ⟨none, tail⟩ rfl (by omega)

/-- **partition**: a message that does not fit is sent as first :: middles ++ [last]; the bodies concatenate
    to the message byte for byte, every body is non-empty and at most 247 bytes, every length field is the
    real size, exactly the first fragment is flagged first and exactly the last is flagged last -/
theorem C09_partition (h : HLH) (hh : h ≠ 0#32) (data : Bytes)
    (hbig : Gen.bodyMax < (HLPacket.mk (some h) data).body.length) :
    ∃ (first last : Frame) (mids : List Frame),
      fragments (whole ⟨some h, data⟩) ⟨some h, data⟩ = first :: (mids ++ [last]) ∧
      ((fragments (whole ⟨some h, data⟩) ⟨some h, data⟩).map bodyOf).flatten = (HLPacket.mk (some h) data).body ∧
      (∀ f ∈ fragments (whole ⟨some h, data⟩) ⟨some h, data⟩,
          0 < (bodyOf f).length ∧ (bodyOf f).length ≤ 247 ∧ LL.size f.ll = (bodyOf f).length + 7 ∧
          f.serialize.length = LL.size f.ll + 2) ∧
      LL.flags first.ll = 0x40 ∧ LL.flags last.ll = 0x80 ∧ (∀ m ∈ mids, LL.flags m.ll = 0) ∧
      mids.length + 2 = count ⟨some h, data⟩ := by
  obtain ⟨k, n, k4, k247, hlo, hhi, hn, hfr⟩ := fragments_of_big (whole ⟨some h, data⟩) _ hbig
  rw [HLPacket.body_some h hh] at *
  obtain ⟨hwin, hr0, hr247⟩ := train_bounds hlo hhi
  obtain ⟨a1, a2, a3, a4, a5⟩ := firstFrag_facts h hh data k k4 k247 (by
    rw [List.length_append, HLH.bytes_length] at hlo
    exact Nat.le_of_lt (Nat.lt_of_le_of_lt (Nat.le_add_right k _) hlo))
  generalize HLH.bytes h ++ data = ser at *
  rw [← List.length_drop] at hr0 hr247
  obtain ⟨c1, c2, c3, c4⟩ := lastFrag_facts (ser.drop (k + 247 * n)) hr247
  refine ⟨_, _, _, hfr, ?_, ?_, a5, c4, ?_, by simp [hn]⟩
  · rw [hfr]
    simp only [List.map_cons, List.map_append, List.map_map, List.map_nil, List.flatten_cons,
      List.flatten_append, List.flatten_nil, List.append_nil]
    have hm : (List.range n).map (bodyOf ∘ fun j => midFrag ser (k + 247 * j)) =
        (List.range n).map fun j => slice ser (k + 247 * j) (k + 247 * j + 247) :=
      List.map_congr_left fun j hj => (midFrag_facts ser _ (hwin j (List.mem_range.1 hj))).1
    rw [hm, a1, c1, windows_append_drop ser k 247 n (Nat.le_of_lt hlo), List.take_append_drop]
  · intro f hf
    rw [hfr] at hf
    simp only [List.mem_cons, List.mem_append, List.mem_map, List.mem_range, List.not_mem_nil, or_false] at hf
    rcases hf with rfl | ⟨j, hj, rfl⟩ | rfl
    · rw [a1, a2, a3, a4]; exact ⟨Nat.lt_of_lt_of_le (by decide) k4, k247, rfl, rfl⟩
    · obtain ⟨b1, b2, b3, b4, -⟩ := midFrag_facts ser _ (hwin j hj)
      rw [b1, b2, b3, b4]; decide
    · rw [c1, c2, c3]; exact ⟨hr0, hr247, rfl, rfl⟩
  · intro m hm
    obtain ⟨j, hj, rfl⟩ := List.mem_map.1 hm
    exact (midFrag_facts ser _ (hwin j (List.mem_range.1 hj))).2.2.2.2

/-- stamping a middle fragment (built without `with_flags`) is stamping the same frame with flags 0 -/
theorem stamp_mid (seq : Nat) (ser : Bytes) (idx : Nat) :
    Frame.stamp seq (midFrag ser idx) =
      Frame.stamp seq (Frame.mkData 0 ⟨none, slice ser idx (idx + Gen.bodyMax)⟩ (Gen.bodyMax + 7)) := by
  rw [midFrag_eq_mkData]

/-! ## non-vacuity: body length 248 - one byte over the limit, first fragment of the minimum size 4
    (defect D6, DESIGN.md section 6) -/
example : ∃ data : Bytes, Gen.bodyMax < (HLPacket.mk (some 0x00020000#32) data).body.length ∧
    (HLPacket.mk (some 0x00020000#32) data).body.length = 248 ∧ (0x00020000#32 : HLH) ≠ 0#32 := by
  refine ⟨List.replicate 244 7, ?_, ?_, by decide⟩ <;>
    rw [HLPacket.body_some _ (by decide), List.length_append, HLH.bytes_length, List.length_replicate]
  rw [C09_body_max]; omega

/-- **source tie (translator 4)**: the expressions `count_fragments` and `handle_tx_fragmentation` evaluate in the
    working tree - translated from the Python ast on every run - are the model's, for every body length -/
theorem C09_source_exprs (n : Nat) :
    Gen.countFragmentsExpr n = ((ceilDiv n Gen.bodyMax : Nat) : Int) ∧
    Gen.firstFragSizeExpr n = ((firstSize n : Nat) : Int) := by
  constructor
  · unfold Gen.countFragmentsExpr ceilDiv Gen.bodyMax; omega
  · unfold Gen.firstFragSizeExpr firstSize Gen.pyOr Gen.bodyMax
    -- both sides take the same remainder; what is left is linear in it
    rw [show (n : Int) % 247 = ((n % 247 : Nat) : Int) from Int.ofNat_mod_ofNat n 247]
    generalize n % 247 = r
    by_cases h : r = 0
    · subst h; rfl
    · rw [if_pos (Int.natCast_ne_zero.2 h), if_neg h]; omega

end Zboss.Frag
