import ZbossModel.Reasm
import ZbossModel.Props.C09
import ZbossModel.Proofs.RxWire
import ZbossModel.Proofs.Run
/-! # C10 - fragmented incoming messages are reassembled into exactly the original

The frames are what the receiver (C01/C06) hands up: a first fragment carries the command header and the first part of
the parameters, continuation fragments carry raw parameter bytes (their own body checksum verified and stripped by the
receiver). -/
namespace Zboss.Reasm
open Gen Rx Codec

def feedFrames (frags : List Frame) (fs : List Frame) : List Frame × List Outcome :=
  fs.foldl (fun acc f => let r := frameReceived acc.1 f; (r.1, acc.2 ++ [r.2])) (frags, [])

theorem feedFrames_cons (frags : List Frame) (f : Frame) (fs : List Frame) :
    feedFrames frags (f :: fs) =
      ((feedFrames (frameReceived frags f).1 fs).1, (frameReceived frags f).2 :: (feedFrames (frameReceived frags f).1 fs).2) :=
  runLog_cons frameReceived frags f fs

theorem feedFrames_append (frags : List Frame) (a b : List Frame) :
    feedFrames frags (a ++ b) =
      ((feedFrames (feedFrames frags a).1 b).1, (feedFrames frags a).2 ++ (feedFrames (feedFrames frags a).1 b).2) :=
  runLog_append frameReceived frags a b

theorem feed_mids (pending : List Frame) (mids : List Frame) (hp : pending ≠ [])
    (hm : ∀ m ∈ mids, isFirst m = false ∧ isLast m = false) :
    feedFrames pending mids = (pending ++ mids, mids.map (fun _ => Outcome.buffered)) := by
  induction mids generalizing pending with
  | nil => simp [feedFrames]
  | cons m ms ih =>
    have h1 := hm m (by simp)
    have hstep : frameReceived pending m = (pending ++ [m], .buffered) := by
      simp [frameReceived, h1.1, h1.2]
    rw [feedFrames_cons, hstep]
    simp only []
    rw [ih (pending ++ [m]) (by simp) (fun x hx => hm x (by simp [hx]))]
    simp

/-- any train is buffered up to its last fragment, whatever was pending; the outcome then is that of `merge` -/
theorem feedFrames_train (pending : List Frame) (first last : Frame) (mids : List Frame)
    (hf : isFirst first = true ∧ isLast first = false) (hm : ∀ m ∈ mids, isFirst m = false ∧ isLast m = false)
    (hl : isFirst last = false ∧ isLast last = true) :
    feedFrames pending (first :: mids ++ [last]) =
      match merge (first :: mids ++ [last]) with
      | some m => ([], .buffered :: (mids.map fun _ => .buffered) ++ [.msg m])
      | none => (first :: mids ++ [last], .buffered :: (mids.map fun _ => .buffered) ++ [.failed]) := by
  have h1 : frameReceived pending first = ([first], .buffered) := by simp [frameReceived, hf.1, hf.2]
  have hpre : feedFrames pending (first :: mids) = (first :: mids, .buffered :: mids.map fun _ => .buffered) := by
    rw [feedFrames_cons, h1, feed_mids [first] mids (List.cons_ne_nil _ _) hm]; rfl
  rw [feedFrames_append, hpre]
  -- the last fragment meets the non-empty buffer `first :: mids`: it is merged
  simp only [feedFrames, List.foldl_cons, List.foldl_nil, frameReceived, hl.1, hl.2, Bool.not_true, Bool.false_eq_true,
    if_false, List.isEmpty_cons]
  cases merge (first :: mids ++ [last]) <;> rfl

/-- **reassembly**: whatever stale fragments are pending, a train first :: middles ++ [last] whose bodies
    concatenate to `HLH.bytes h ++ payload` hands up exactly one message - command header `h`, parameters
    `payload` - when the last fragment arrives, and leaves nothing pending.  The fragment sizes are arbitrary. -/
theorem C10_reassembly (pending : List Frame) (first last : Frame) (mids : List Frame) (h : HLH) (payload : Bytes)
    (hf : isFirst first = true ∧ isLast first = false)
    (hm : ∀ m ∈ mids, isFirst m = false ∧ isLast m = false)
    (hl : isFirst last = false ∧ isLast last = true)
    (hbody : ((first :: mids ++ [last]).map bodyOf).flatten = HLH.bytes h ++ payload) :
    feedFrames pending (first :: mids ++ [last]) =
      ([], Outcome.buffered :: (mids.map fun _ => Outcome.buffered) ++ [Outcome.msg ⟨some h, payload⟩]) := by
  rw [feedFrames_train pending first last mids hf hm hl, merge, hbody, if_neg (by simp [HLH.bytes_length]),
    HLH.ofBytes_bytes, List.drop_left' (HLH.bytes_length h)]

/-- **a frame flagged first always starts a new message**: an interrupted fragment sequence never corrupts
    the next complete (first+last) message, which is passed on unchanged -/
theorem C10_restart (pending : List Frame) (f : Frame) (p : HLPacket) (hp : f.hl = some p)
    (hfl : isFirst f = true ∧ isLast f = true) :
    frameReceived pending f = ([], .msg ⟨p.header, p.data⟩) := by
  simp [frameReceived, hfl.1, hfl.2, hp]

/-- ... and the same for an interrupted sequence followed by a new *fragmented* message: the stale fragments
    are discarded by the new first fragment (instance of `C10_reassembly`, which holds for every `pending`) -/
theorem C10_interrupted_then_fragmented (stale : List Frame) (first last : Frame) (mids : List Frame) (h : HLH)
    (payload : Bytes) (hf : isFirst first = true ∧ isLast first = false)
    (hm : ∀ m ∈ mids, isFirst m = false ∧ isLast m = false) (hl : isFirst last = false ∧ isLast last = true)
    (hbody : ((first :: mids ++ [last]).map bodyOf).flatten = HLH.bytes h ++ payload) :
    (feedFrames stale (first :: mids ++ [last])).1 = [] ∧
    (feedFrames stale (first :: mids ++ [last])).2.getLast? = some (Outcome.msg ⟨some h, payload⟩) := by
  rw [C10_reassembly stale first last mids h payload hf hm hl hbody]
  refine ⟨rfl, ?_⟩
  simp only []
  rw [List.getLast?_append]
  simp

theorem flags_stamped (fl : Nat) (seq : Fin 4) (hfl : fl = 0 ∨ fl = 0x40 ∨ fl = 0x80 ∨ fl = 0xC0) :
    Frame.hasFlag (wireFlags fl seq.val) Gen.flagFirstFrag = Frame.hasFlag fl Gen.flagFirstFrag ∧
    Frame.hasFlag (wireFlags fl seq.val) Gen.flagLastFrag = Frame.hasFlag fl Gen.flagLastFrag ∧
    Frame.hasFlag (wireFlags fl seq.val) Gen.flagisACK = false := by
  rcases hfl with h | h | h | h <;> subst h <;> revert seq <;> decide

/-- **own transmitter → own receiver**: the fragments the host's fragmenter produces for a message that does
    not fit (C09), stamped with any sequence numbers, are - as frames - a train whose reassembly is the
    original command header and parameters -/
theorem C10_loopback (h : HLH) (hh : h ≠ 0#32) (data : Bytes)
    (hbig : Gen.bodyMax < (HLPacket.mk (some h) data).body.length) (pending : List Frame) :
    ∃ first last mids, Frag.fragments (Frag.whole ⟨some h, data⟩) ⟨some h, data⟩ = first :: (mids ++ [last]) ∧
      ((first :: mids ++ [last]).map bodyOf).flatten = HLH.bytes h ++ data := by
  obtain ⟨first, last, mids, hfr, hcat, _, _, _, _, _⟩ := Frag.C09_partition h hh data hbig
  refine ⟨first, last, mids, hfr, ?_⟩
  rw [← HLPacket.body_some h hh data, ← hcat, hfr]
  rfl  -- `Frag.bodyOf` and `Reasm.bodyOf` are one function, written down in both model files

theorem stamp_body (s : Nat) (f : Frame) : bodyOf (Frame.stamp s f) = bodyOf f := rfl

theorem stamp_isFirst_isLast_isAck (fl : Nat) (s : Fin 4) (f : Frame) (hf : LL.flags f.ll = fl % 256)
    (hfl : fl = 0 ∨ fl = 0x40 ∨ fl = 0x80 ∨ fl = 0xC0) :
    isFirst (Frame.stamp s.val f) = Frame.hasFlag fl Gen.flagFirstFrag ∧
    isLast (Frame.stamp s.val f) = Frame.hasFlag fl Gen.flagLastFrag ∧ isAck (Frame.stamp s.val f) = false := by
  rw [isFirst, isLast, isAck, Frame.stamp_flags, hf, ← wireFlags]
  exact flags_stamped fl s hfl

def WireOK (f : Frame) : Prop := ∀ s : Fin 4, Decodes (Frame.stamp s.val f) ∧ handedUp (Frame.stamp s.val f) = true

/-- what `to_frame` and the `_create_*frag` helpers build: `mkData` with the real length, one of the four first/last
    flag values, and a command header exactly on a frame flagged first -/
theorem wireOK_mkData (fl n : Nat) (p : HLPacket) (hn : n = p.serialize.length + 5) (hlen : n ≤ 65535)
    (hfl : fl = 0 ∨ fl = 0x40 ∨ fl = 0x80 ∨ fl = 0xC0)
    (hh : if Frame.hasFlag fl Gen.flagFirstFrag then ∃ h, h ≠ 0#32 ∧ p.header = some h else p.header = none) :
    WireOK (Frame.mkData fl p n) := by
  intro s
  obtain ⟨f1, _, f3⟩ := flags_stamped fl s hfl
  have hf : LL.flags (Frame.mkData fl p n).ll = fl % 256 := by rw [Frame.mkData, LL.flags_withFlags]
  have ha := (stamp_isFirst_isLast_isAck fl s _ hf hfl).2.2
  exact ⟨(decodes_built fl s.val n p hn hlen f3 (by rw [f1]; exact hh)).1, by rw [handedUp, ha]; rfl⟩

theorem wireOK_first (h : HLH) (hh : h ≠ 0#32) (data : Bytes) (first : Nat) (h4 : 4 ≤ first) (h247 : first ≤ 247)
    (hd : first ≤ 4 + data.length) : WireOK (Frag.firstFrag ⟨some h, data⟩ first) := by
  have hlen : first + 7 ≤ 65535 := by omega
  obtain ⟨a1, a2, -⟩ := Frag.firstFrag_facts h hh data first h4 h247 hd
  have hb : (HLPacket.mk (some h) (data.take (first - 4))).body.length = first := (congrArg List.length a1).trans a2
  exact wireOK_mkData _ _ _ (by rw [HLPacket.serialize_length, hb]) hlen (.inr (.inl rfl)) ⟨h, hh, rfl⟩

theorem wireOK_last (tail : Bytes) (hl : tail.length ≤ 247) : WireOK (Frag.lastFrag tail) :=
  wireOK_mkData _ _ _ (HLPacket.serialize_length _ ▸ rfl) (by omega) (.inr (.inr (.inl rfl))) rfl

theorem wireOK_mid (ser : Bytes) (idx : Nat) (hwin : idx + 247 ≤ ser.length) : WireOK (Frag.midFrag ser idx) := by
  intro s
  rw [Frag.stamp_mid]
  exact wireOK_mkData 0 (Gen.bodyMax + 7) ⟨none, slice ser idx (idx + Gen.bodyMax)⟩
    (by simp [HLPacket.serialize, HLPacket.body, slice_length ser idx Gen.bodyMax hwin, Nat.add_comm])
    (by decide) (.inl rfl) rfl s

theorem wireOK_whole (h : HLH) (hh : h ≠ 0#32) (data : Bytes)
    (hsmall : (HLPacket.mk (some h) data).serialize.length + 5 ≤ 65535) : WireOK (Frag.whole ⟨some h, data⟩) :=
  wireOK_mkData _ _ _ rfl hsmall (.inr (.inr (.inr rfl))) ⟨h, hh, rfl⟩

theorem fragments_wireOK (h : HLH) (hh : h ≠ 0#32) (data : Bytes)
    (hbig : Gen.bodyMax < (HLPacket.mk (some h) data).body.length) :
    ∀ f ∈ Frag.fragments (Frag.whole ⟨some h, data⟩) ⟨some h, data⟩, WireOK f := by
  obtain ⟨k, n, k4, k247, hlo, hhi, -, hfr⟩ := Frag.fragments_of_big (Frag.whole ⟨some h, data⟩) _ hbig
  rw [HLPacket.body_some h hh] at hlo hhi hfr
  obtain ⟨hwin, -, hr247⟩ := Frag.train_bounds hlo hhi
  have hsl : (HLH.bytes h ++ data).length = 4 + data.length := by rw [List.length_append, HLH.bytes_length]
  rw [hfr]
  intro f hf
  simp only [List.mem_cons, List.mem_append, List.mem_map, List.mem_range, List.not_mem_nil, or_false] at hf
  rcases hf with rfl | ⟨j, hj, rfl⟩ | rfl
  · exact wireOK_first h hh data k k4 k247 (hsl ▸ Nat.le_of_lt (Nat.lt_of_le_of_lt (Nat.le_add_right k _) hlo))
  · exact wireOK_mid _ _ (hwin j hj)
  · exact wireOK_last _ (by rw [List.length_drop]; exact hr247)

/-- `ws` is `fs` with every frame stamped by the transmitter with some sequence number 0..3 -/
inductive Stamped : List Frame → List Frame → Prop
  | nil : Stamped [] []
  | cons (s : Fin 4) (f : Frame) {fs ws : List Frame} : Stamped fs ws → Stamped (f :: fs) (Frame.stamp s.val f :: ws)

theorem stamped_wireOK {fs ws : List Frame} (hst : Stamped fs ws) (hok : ∀ f ∈ fs, WireOK f) :
    ∀ w ∈ ws, Decodes w ∧ handedUp w = true := by
  induction hst with
  | nil => intro w hw; cases hw
  | cons s f _ ih =>
    intro w hw
    rcases List.mem_cons.mp hw with rfl | hw
    · exact hok f List.mem_cons_self s
    · exact ih (fun g hg => hok g (List.mem_cons_of_mem _ hg)) w hw

theorem stamped_append_inv (a : List Frame) (x : Frame) (ws : List Frame) (h : Stamped (a ++ [x]) ws) :
    ∃ (wa : List Frame) (s : Fin 4), ws = wa ++ [Frame.stamp s.val x] ∧ Stamped a wa := by
  induction a generalizing ws with
  | nil =>
    cases h with
    | cons s f hr => cases hr; exact ⟨[], s, rfl, .nil⟩
  | cons y a ih =>
    cases h with
    | cons s f hr =>
      obtain ⟨wa, s', hw, hs⟩ := ih _ hr
      exact ⟨Frame.stamp s.val y :: wa, s', by rw [hw]; rfl, .cons s y hs⟩

theorem stamped_mids (mids wm : List Frame) (h : Stamped mids wm) (hm : ∀ m ∈ mids, LL.flags m.ll = 0) :
    (∀ m ∈ wm, isFirst m = false ∧ isLast m = false) ∧ wm.map bodyOf = mids.map bodyOf := by
  induction h with
  | nil => simp
  | cons s f hr ih =>
    obtain ⟨i2, i3⟩ := ih (fun m hm' => hm m (by simp [hm']))
    have hf := stamp_isFirst_isLast_isAck 0 s f (hm f (by simp)) (by simp)
    refine ⟨?_, by simp only [List.map_cons, i3, stamp_body]⟩
    intro m hm'
    rcases List.mem_cons.mp hm' with rfl | hm'
    · exact ⟨by rw [hf.1]; decide, by rw [hf.2.1]; decide⟩
    · exact i2 m hm'

theorem reassembly_stamped (h : HLH) (hh : h ≠ 0#32) (data : Bytes)
    (hbig : Gen.bodyMax < (HLPacket.mk (some h) data).body.length) (ws : List Frame)
    (hst : Stamped (Frag.fragments (Frag.whole ⟨some h, data⟩) ⟨some h, data⟩) ws) (pending : List Frame) :
    (feedFrames pending ws).1 = [] ∧ (feedFrames pending ws).2.getLast? = some (Outcome.msg ⟨some h, data⟩) := by
  obtain ⟨first, last, mids, hfr, hcat, _, hf1, hf2, hfm, _⟩ := Frag.C09_partition h hh data hbig
  rw [hfr] at hst hcat
  cases hst with
  | cons s0 _ hrest =>
    obtain ⟨wm, sl, rfl, hsm⟩ := stamped_append_inv mids last _ hrest
    obtain ⟨hmf, hmb⟩ := stamped_mids mids wm hsm hfm
    have hff := stamp_isFirst_isLast_isAck 0x40 s0 first hf1 (by simp)
    have hlf := stamp_isFirst_isLast_isAck 0x80 sl last hf2 (by simp)
    refine C10_interrupted_then_fragmented pending (Frame.stamp s0.val first) (Frame.stamp sl.val last) wm h data
      ⟨by rw [hff.1]; decide, by rw [hff.2.1]; decide⟩ hmf ⟨by rw [hlf.1]; decide, by rw [hlf.2.1]; decide⟩ ?_
    rw [← HLPacket.body_some h hh data, ← hcat]
    simp only [List.map_cons, List.map_append, List.map_nil, stamp_body, hmb]
    rfl  -- `Frag.bodyOf` is `Reasm.bodyOf`, as in `C10_loopback`

/-- **own transmitter → wire → own receiver → reassembly**: a message that does not fit one frame is cut by the
    host's fragmenter, every fragment stamped with any sequence number and serialized; whatever the reads are cut
    into, whatever the handler does and whatever stale fragments were pending, the receiver hands up exactly
    the fragments, and their reassembly is the original command header and parameters, with nothing left pending -/
theorem C10_wire_loopback (hnd : Frame → Bool) (tr : Bool) (h : HLH) (hh : h ≠ 0#32) (data : Bytes)
    (hbig : Gen.bodyMax < (HLPacket.mk (some h) data).body.length) (ws : List Frame)
    (hst : Stamped (Frag.fragments (Frag.whole ⟨some h, data⟩) ⟨some h, data⟩) ws)
    (chunks : List Bytes) (hchunks : chunks.flatten = (ws.map Frame.serialize).flatten) (pending : List Frame) :
    deliveredOf (session hnd { transport := tr } chunks).2 = ws ∧
    (feedFrames pending ws).1 = [] ∧
    (feedFrames pending ws).2.getLast? = some (Outcome.msg ⟨some h, data⟩) := by
  have hw := stamped_wireOK hst (fragments_wireOK h hh data hbig)
  refine ⟨?_, reassembly_stamped h hh data hbig ws hst pending⟩
  rw [session_decodes hnd _ rfl ws (fun w hw' => (hw w hw').1) chunks hchunks]
  exact List.filter_eq_self.mpr fun w hw' => (hw w hw').2

/-- the hypotheses of `C10_wire_loopback` are satisfiable for every message: stamp every fragment (here with 0 -
    any per-fragment choice works the same way) and deliver the bytes in one read -/
theorem stamped_exists (fs : List Frame) : Stamped fs (fs.map (Frame.stamp 0)) := by
  induction fs with
  | nil => exact .nil
  | cons f fs ih => exact .cons 0 f ih

/-! ## non-vacuity -/
example : isFirst ⟨LL.withFlags (LL.base 20) 0x44, some ⟨some 0x20000#32, [1]⟩⟩ = true ∧
    isLast ⟨LL.withFlags (LL.base 20) 0x44, some ⟨some 0x20000#32, [1]⟩⟩ = false := by decide

end Zboss.Reasm
