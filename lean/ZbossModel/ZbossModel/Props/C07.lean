import ZbossModel.Proofs.Link
import ZbossModel.Proofs.Run
/-! # C07 - transmission is stop-and-wait: one unacknowledged data frame at a time, in order

The transmit lock is the pair (holder, queue): the holder is the one sender whose frame is on the
wire and unacknowledged; the queue holds the senders waiting, oldest first.  Every theorem about one event
goes through `step_cases` (Proofs/Link.lean): the event leaves the lock alone, or an idle link takes the new
sender, or the holder's wait ends and the lock passes on. -/
namespace Zboss.Link
open Gen Rx

/-- lock invariant: waiters exist only while somebody holds the lock -/
def Inv (st : St) : Prop := st.holder = none → st.queue = []

theorem grant_inv (st : St) (q : List (Nat × Frame)) : Inv (grant st q).1 := by
  rcases grant_cases st q with ⟨_, h⟩ | ⟨_, h⟩ | ⟨_, _, _, _, _, h⟩ <;> rw [h] <;> simp [Inv]

theorem C07_inv_step (st : St) (e : Ev) (h : Inv st) : Inv (step st e).1 := by
  rcases step_cases st e with ⟨hh, hq, _⟩ | ⟨_, _, _, _, he⟩ | ⟨_, _, _, _, _, _, _, he⟩
  · intro hn; rw [hh] at hn; rw [hq hn]; exact h hn
  · rw [he]; exact grant_inv _ _
  · rw [he]; exact grant_inv _ _

theorem runEvents_inv (st : St) (evs : List Ev) (h : Inv st) : Inv (runEvents st evs).1 :=
  runLog_induction step (fun st _ => Inv st) st evs h fun st _ e => C07_inv_step st e

theorem C07_inv_reachable (evs : List Ev) : Inv (runEvents {} evs).1 := runEvents_inv {} evs fun _ => rfl

theorem passive_wrote (o : Option Nat) (l : List Out) (h : ∀ x ∈ l, passive o x = true) (j s : Nat) :
    Out.wrote j s ∉ l :=
  fun hm => by simpa [passive] using h _ hm

/-- **stop-and-wait**: a data frame is put on the wire in a step only if the link was idle before the
    event (no unacknowledged frame), or the event ended the outstanding frame's wait: bytes containing an
    accepted acknowledgement arrived and set the ACK event, the wait expired, or its sender was cancelled -
    and in that case the outstanding sender completes in the same step, before the write -/
theorem C07_stop_and_wait (st : St) (e : Ev) (j s : Nat) (hw : Out.wrote j s ∈ (step st e).2) :
    st.holder = none ∨
    ∃ h, st.holder = some h ∧
      ((∃ data, e = .rx data ∧ (dataReceived (fun _ => false) st.rx data).1.eventSet = true ∧
          Out.done h.id ∈ (step st e).2) ∨
       (e = .tick ∧ Out.done h.id ∈ (step st e).2) ∨
       (e = .cancel h.id ∧ Out.cancelled h.id ∈ (step st e).2)) := by
  rcases step_cases st e with ⟨_, _, hp⟩ | ⟨hh, _⟩ | ⟨h, fin, _, _, hh, hend, _, he⟩
  · exact absurd hw (passive_wrote _ _ hp j s)
  · exact .inl hh
  · refine .inr ⟨h, hh, ?_⟩
    have hfin : fin ∈ (step st e).2 := by simp [he]
    cases hend with
    | ack data hev => exact .inl ⟨data, rfl, hev, hfin⟩
    | expiry => exact .inr (.inl ⟨rfl, hfin⟩)
    | cancel => exact .inr (.inr ⟨rfl, hfin⟩)

/-- a matching acknowledgement is the only thing received bytes can do to end a wait: the ACK event
    of the current holder becomes set only through an accepted ACK frame -/
theorem C07_event_needs_ack (st : St) (data : Bytes) (hclear : st.rx.eventSet = false)
    (hset : (dataReceived (fun _ => false) st.rx data).1.eventSet = true) :
    ∃ f ∈ (run tryFrame (st.rx.buf ++ data)).1, isAck f = true := by
  -- otherwise the accepted frames leave the event as it was: cleared
  refine Classical.byContradiction fun hn => ?_
  have h := congrArg Prod.snd (dataReceived_seq (fun _ => false) st.rx data)
  rw [fold_ackStep_noack _ _ _ fun f hf => Bool.eq_false_iff.mpr fun ha => hn ⟨f, hf, ha⟩] at h
  exact Bool.false_ne_true (hclear.symm.trans (h.symm.trans hset))

/-- the holder's ACK event starts cleared: `grant` creates a fresh event for every frame it writes -/
theorem C07_fresh_event (st : St) (i : Nat) (f : Frame) (rest : List (Nat × Frame)) (ht : st.rx.transport = true) :
    (grant st ((i, f) :: rest)).1.rx.eventSet = false := by simp [grant, ht]

/-- **first come, first served, one at a time**: whoever is written in a step is the *oldest* waiting
    sender (head of the queue with the new request appended), and a step writes at most one data frame -/
theorem C07_fifo (st : St) (e : Ev) (hinv : Inv st) (j s : Nat) (hw : Out.wrote j s ∈ (step st e).2) :
    (∃ f, e = .send j f ∧ st.queue = []) ∨ (∃ f rest, st.queue = (j, f) :: rest) := by
  rcases step_cases st e with ⟨_, _, hp⟩ | ⟨hh, i, f, rfl, he⟩ | ⟨h, fin, st1, l, _, hend, hq, he⟩
  · exact absurd hw (passive_wrote _ _ hp j s)
  · rw [he, hinv hh] at hw
    obtain ⟨f', rest, hq, _⟩ := grant_wrote _ _ j s hw
    obtain ⟨⟨rfl, _⟩, _⟩ : (i = j ∧ f = f') ∧ rest = [] := by simpa using hq
    exact .inl ⟨f, rfl, hinv hh⟩
  · have : Out.wrote j s ∈ (release st1).2 := by
      rw [he] at hw
      rcases List.mem_append.mp hw with h1 | h1
      · exact absurd h1 (passive_wrote none _ (rxOuts_passive _ _) j s)
      · cases hend <;> simpa using h1
    obtain ⟨f', rest, hq', _⟩ := grant_wrote _ _ j s this
    exact .inr ⟨f', rest, hq ▸ hq'⟩

theorem grant_one_write (st : St) (q : List (Nat × Frame)) : ((grant st q).2.filter isWrote).length ≤ 1 := by
  rcases grant_cases st q with ⟨_, h⟩ | ⟨_, h⟩ | ⟨_, _, _, _, _, h⟩ <;> rw [h]
  · rw [List.filter_map, List.filter_eq_nil_iff.mpr (by simp [isWrote])]; simp
  · exact Nat.zero_le 1
  · simp [isWrote, List.filter_cons]

/-! ## trace level

`monStep` is a monitor over the output log: it remembers the sender whose data frame is on the wire and
unacknowledged, rejects a second data frame while one is outstanding, and forgets the outstanding frame when
its sender's `send` returns (acknowledged or timed out) or is cancelled. -/

/-- monitor state: `none` = the log was rejected, `some o` = accepted so far with `o` the outstanding sender -/
def monStep : Option (Option Nat) → Out → Option (Option Nat)
  | none, _ => none
  | some o, .wrote i _ => if o = none then some (some i) else none
  | some o, .done i => some (if o = some i then none else o)
  | some o, .cancelled i => some (if o = some i then none else o)
  | some o, _ => some o

theorem monStep_passive (o : Option Nat) (x : Out) (h : passive o x = true) : monStep (some o) x = some o := by
  cases x with
  | done i | cancelled i =>
    have : o ≠ some i := by simpa [passive] using h
    simp [monStep, this]
  | wire _ | deliver _ => rfl
  | wrote _ _ => cases h

theorem mon_passive (o : Option Nat) (l : List Out) (h : ∀ x ∈ l, passive o x = true) :
    l.foldl monStep (some o) = some o := by
  induction l with
  | nil => rfl
  | cons x l ih =>
    rw [List.foldl_cons, monStep_passive o x (h x List.mem_cons_self)]
    exact ih fun y hy => h y (List.mem_cons_of_mem _ hy)

theorem mon_grant (st : St) (q : List (Nat × Frame)) (hh : st.holder = none) :
    (grant st q).2.foldl monStep (some none) = some ((grant st q).1.holder.map (·.id)) := by
  rcases grant_cases st q with ⟨_, h⟩ | ⟨_, h⟩ | ⟨_, _, _, _, _, h⟩ <;> rw [h]
  · rw [hh]; exact mon_passive none _ (List.forall_mem_map.mpr fun _ _ => rfl)
  · simp [hh]
  · simp [monStep]

theorem mon_event (st : St) (e : Ev) :
    (step st e).2.foldl monStep (some (st.holder.map (·.id))) = some ((step st e).1.holder.map (·.id)) := by
  rcases step_cases st e with ⟨hh, _, hp⟩ | ⟨hh, _, _, _, he⟩ | ⟨h, fin, st1, l, hh, hend, _, he⟩
  · rw [hh]; exact mon_passive _ _ hp
  · rw [he, hh]; exact mon_grant _ _ hh
  · -- the outputs of the received bytes pass, `fin` clears the monitor, then the lock is granted afresh
    have : monStep (some (some h.id)) fin = some none := by cases hend <;> simp [monStep]
    rw [he, hh, List.foldl_append, mon_passive _ _ (rxOuts_passive _ _), List.foldl_cons, Option.map_some, this]
    exact mon_grant _ _ rfl

theorem mon_step (st : St) (e : Ev) (hinv : Inv st) :
    (step st e).2.foldl monStep (some (st.holder.map (·.id))) = some ((step st e).1.holder.map (·.id)) :=
  mon_event st e

theorem mon_runEvents (st : St) (evs : List Ev) :
    (runEvents st evs).2.flatten.foldl monStep (some (st.holder.map (·.id))) =
      some ((runEvents st evs).1.holder.map (·.id)) :=
  runLog_induction step (fun st' log => log.flatten.foldl monStep (some (st.holder.map (·.id))) = some (st'.holder.map (·.id)))
    st evs rfl fun st' log e h => by rw [List.flatten_append, List.foldl_append, h]; simpa using mon_event st' e

/-- **stop-and-wait for whole executions**: for every sequence of events (sends, received bytes in any
    chunking, timer expiries, cancellations, close / reconnect) the output log is accepted by the monitor:
    no data frame is ever written while another one is outstanding, and the outstanding sender is exactly the
    lock holder -/
theorem C07_trace (evs : List Ev) :
    (runEvents {} evs).2.flatten.foldl monStep (some none) = some ((runEvents {} evs).1.holder.map (·.id)) :=
  mon_runEvents {} evs

/-- the monitor is not vacuous: it rejects a log with two data frames and nothing in between -/
example : [Out.wrote 1 0, Out.wrote 2 1].foldl monStep (some none) = none := by decide
example : [Out.wrote 1 0, Out.done 1, Out.wrote 2 1].foldl monStep (some none) = some (some 2) := by decide

/-! ## non-vacuity: two senders, the second is written only when the first is acknowledged -/
example : (runEvents {} [.send 1 (Frame.mkData 0xC0 ⟨some 0x20000#32, [1]⟩ 12),
    .send 2 (Frame.mkData 0xC0 ⟨some 0x20000#32, [2]⟩ 12), .rx (Frame.ack 0 false).serialize]).2.map
      (fun l => l.filter isWrote) = [[.wrote 1 0], [], [.wrote 2 1]] := by decide +kernel

end Zboss.Link
