import ZbossModel.Props.C04
import ZbossModel.Pinned
/-! # C19 - command identifiers, field layouts and enum values stay the NCP protocol's

`Gen.commands` is regenerated from /repo's working tree on every run; `Pinned.views` is the committed
golden table of the pinned, interoperating revision.

Two of the sweeps are quadratic as stated.  Each is decided in the form `fast || complete`: a linear test that holds
of a table in the generator's order, and behind it the complete test, which the kernel evaluates only if the first
fails - so the statement is decided for any table, and cheaply for this one. -/
namespace Zboss.Codec
open Wire

def currentViews : List View := Gen.commands.map viewOf

/-- fast: the pinned classes appear in the table in the pinned order -/
theorem all_contains_of_sublist (p c : List View) (h : (p.isSublist c || p.all (fun v => c.contains v)) = true) :
    p.all (fun v => c.contains v) = true := by
  rcases (Bool.or_eq_true _ _).mp h with h | h
  · simpa using fun v hv => (List.isSublist_iff_sublist.mp h).subset hv
  · exact h

/-- **identity**: every command of the pinned revision is still there with the same header (numeric id,
    control type, version), the same order, width and signedness of every field, the same optional flags
    and the same numeric values of every enumeration / flag type (new commands may be added) -/
theorem C19_table_preserved : Pinned.views.all (fun v => currentViews.contains v) = true :=
  all_contains_of_sublist _ _ (by decide +kernel)

theorem C19_view_preserved (v : View) (hv : v ∈ Pinned.views) : v ∈ currentViews := by
  simpa using List.all_eq_true.mp C19_table_preserved v hv

/-- hence the bytes exchanged with the NCP for a given command and values are the same as at the pinned
    revision, and are decoded the same way: `toBytes` / `fromPayload` read nothing but the view -/
theorem C19_same_bytes (v : View) (hv : v ∈ Pinned.views) (a : Assign) (payload : Bytes) :
    ∃ w ∈ currentViews, w.header = v.header ∧ toBytes w a = toBytes v a ∧ fromPayload w payload = fromPayload v payload :=
  ⟨v, C19_view_preserved v hv, rfl, rfl, rfl⟩

/-- pairwise distinct, as a computation: the `Decidable` instance of `List.Nodup` carries proof terms along, which the
    kernel would have to evaluate as well -/
def distinct : List Nat → Bool
  | [] => true
  | x :: xs => xs.all (!Nat.beq x ·) && distinct xs

theorem nodup_of_distinct : ∀ {l : List Nat}, distinct l = true → l.Nodup
  | [], _ => .nil
  | x :: xs, h => by
    simp only [distinct, Bool.and_eq_true, List.all_eq_true, Bool.not_eq_true'] at h
    exact List.nodup_cons.mpr ⟨fun hm => by simpa using h.1 x hm, nodup_of_distinct h.2⟩

/-- command headers identify command types one-to-one -/
theorem C19_headers_injective : (currentViews.map (·.header)).Nodup := nodup_of_distinct (by decide +kernel)

/-- no header is zero (so `if self.header:` in `HLPacket.serialize` always includes it) and every
    header fits 32 bits with protocol version 0 -/
theorem C19_headers_sane : currentViews.all (fun v => v.header ≠ 0 && v.header < 2 ^ 32 && v.header % 256 == 0) = true := by
  decide +kernel

def idsOf (l : List View) (t : Nat) : List Nat := (l.filter (ctype · == t)).map cmdId

theorem count_idsOf (l : List View) (i t : Nat) :
    (idsOf l t).count i = (l.filter fun w => cmdId w = i ∧ ctype w = t).length := by
  simp only [idsOf, List.count_eq_length_filter, List.filter_map, List.length_map, List.filter_filter]
  congr 2; funext w; rw [Bool.decide_and]; rfl

/-- fast: the generator lists a command's request and response together, so the two id lists are equal (and have no
    repetition) -/
def pairedIds (l : List View) : Bool :=
  (idsOf l 0 == idsOf l 1 && distinct (idsOf l 0) ||
    (idsOf l 0).all (fun i => (idsOf l 1).count i == 1) && (idsOf l 1).all (fun i => (idsOf l 0).count i == 1)) &&
  l.all (ctype · ≤ 2)

theorem paired_of_ids (l : List View) (h : pairedIds l = true) :
    l.all (fun v =>
      if ctype v = 0 then (l.filter fun w => cmdId w = cmdId v ∧ ctype w = 1).length == 1
      else if ctype v = 1 then (l.filter fun w => cmdId w = cmdId v ∧ ctype w = 0).length == 1
      else ctype v == 2) = true := by
  rw [pairedIds, Bool.and_eq_true, Bool.or_eq_true] at h
  obtain ⟨h01, h2⟩ := h
  have ⟨h0, h1⟩ : (∀ i ∈ idsOf l 0, (idsOf l 1).count i = 1) ∧ ∀ i ∈ idsOf l 1, (idsOf l 0).count i = 1 := by
    rcases h01 with h | h <;> rw [Bool.and_eq_true] at h
    · have he := beq_iff_eq.mp h.1
      have hn := nodup_of_distinct h.2
      exact ⟨fun i hi => by rw [← he, hn.count, if_pos hi], fun i hi => by rw [hn.count, if_pos (he ▸ hi)]⟩
    · exact ⟨fun i hi => beq_iff_eq.mp (List.all_eq_true.mp h.1 i hi),
        fun i hi => beq_iff_eq.mp (List.all_eq_true.mp h.2 i hi)⟩
  simp only [count_idsOf, List.all_eq_true, decide_eq_true_eq] at h0 h1 h2
  refine List.all_eq_true.mpr fun v hv => ?_
  have mem (t) (ht : ctype v = t) : cmdId v ∈ idsOf l t :=
    List.mem_map.mpr ⟨v, List.mem_filter.mpr ⟨hv, by simpa using ht⟩, rfl⟩
  by_cases ht0 : ctype v = 0
  · rw [if_pos ht0]; exact beq_iff_eq.mpr (h0 _ (mem 0 ht0))
  rw [if_neg ht0]
  by_cases ht1 : ctype v = 1
  · rw [if_pos ht1]; exact beq_iff_eq.mpr (h1 _ (mem 1 ht1))
  · rw [if_neg ht1]
    exact beq_iff_eq.mpr (Nat.le_antisymm (h2 v hv) (Nat.lt_of_le_of_ne (Nat.pos_of_ne_zero ht0) (Ne.symm ht1)))

/-- every request type is paired with exactly the response type of the same id, and vice versa;
    indications stand alone -/
theorem C19_req_rsp_paired :
    currentViews.all (fun v =>
      if ctype v = 0 then (currentViews.filter fun w => cmdId w = cmdId v ∧ ctype w = 1).length == 1
      else if ctype v = 1 then (currentViews.filter fun w => cmdId w = cmdId v ∧ ctype w = 0).length == 1
      else ctype v == 2) = true := paired_of_ids currentViews (by decide +kernel)

/-- every response starts with TSN, status category, status code (one byte each): the three status
    fields `from_frame` relies on -/
theorem C19_rsp_status_prefix :
    currentViews.all (fun v => ctype v ≠ 1 ||
      (v.statusIdx == some 2 && (v.fields.take 3).map (·.wt) == [.sc (.uint 1), .sc (.uint 1), .sc (.uint 1)])) = true := by
  refine List.all_eq_true.mpr fun v hv => ?_
  by_cases h1 : ctype v = 1
  · have hs := schemaOK_of_mem v hv (by omega)
    simp only [SchemaOK, h1, bne_self_eq_false, Bool.false_or, Bool.and_eq_true, beq_iff_eq] at hs
    have h3 := congrArg (List.map Prod.fst) hs.2.2
    simp only [List.map_map, Function.comp_def, List.map_cons, List.map_nil] at h3
    simp [hs.2.1, h3]
  · simp [h1]

theorem C19_pinned_count : Pinned.views.length = 145 := by decide +kernel

end Zboss.Codec
