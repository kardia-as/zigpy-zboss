import ZbossModel.Proofs.RxLog
import ZbossModel.Proofs.RxLocated
/-! # C02 - the receiver is total: no input or handler failure makes it raise or go deaf -/
namespace Zboss.Rx
open Gen

/-- no buffer content makes the frame extractor leave through an exception other than the two
    it handles itself (`BufferTooShort`, `ValueError`): the `.raised` outcome is unreachable -/
theorem C02_never_raises (buf : Bytes) : tryFrame buf ≠ .raised := tryFrame_never_raises buf

/-- the library decoder only ever fails with a `ValueError` (`InvalidFrame` included) -/
theorem C02_decoder_errors (d : Bytes) : Frame.deserialize d ≠ .error .keyError := deserialize_no_keyError d

/-- an exception raised by the upper-layer handler changes neither the link state, nor the bytes
    written, nor the frames that follow -/
theorem C02_handler_independent (h1 h2 : Frame → Bool) (st : RxState) (data : Bytes) :
    dataReceived h1 st data = dataReceived h2 st data :=
  dataReceived_handler h1 h2 st data

/-- whatever was received, what stays buffered is something the extractor is legitimately waiting on -/
theorem C02_pending_is_short (b : Bytes) : tryFrame (run tryFrame b).2 = .short := by
  -- reducible only: otherwise the unifier meets `tryFrame _ =?= zbossScanner.tryFrame _` by unfolding `tryFrame`
  with_reducible exact pending_is_short zbossScanner b

/-- ... namely fewer than 7 bytes, or the start of the declared extent of a header that passed the
    header checksum - hence never more than 65536 bytes, and every extent ends -/
theorem C02_pending_bounded (b : Bytes) : (run tryFrame b).2.length < 65537 := by
  rcases (tryFrame_short_iff _).mp (C02_pending_is_short b) with h | ⟨e, he, h⟩
  · omega
  · have := extent_le _ e he; omega

/-- an acknowledgement for any sequence value in any link state is handled without effect on the
    transport and without hand-up (in particular before the first transmission: no event object) -/
theorem C02_ack_any_state (h : Frame → Bool) (st : RxState) (f : Frame) (ha : isAck f = true) :
    (handleFrame h st f).2 = [] := by
  rw [handleFrame_eq]; simp [outsOf, ha]

/-- after anything (`g`) followed by at least 65536 bytes none of which is the first marker byte (`q`), the next
    well-formed data frame is handed up: a header inside `g` claims at most 65537 bytes, counted from its own first, and
    none starts inside `q` -/
theorem not_deaf_gap (h : Frame → Bool) (st : RxState) (hb : tryFrame st.buf = .short) (chunks : List Bytes) (g q w : Bytes)
    (f : Frame) (n : Nat) (hk : 65536 ≤ q.length) (hq : ∀ x ∈ q, x ≠ 0xDE)
    (hs : st.buf ++ chunks.flatten = g ++ q ++ w) (hok : tryFrame w = .ok f n) (hd : isAck f = false) :
    f ∈ deliveredOf (session h st chunks).2 := by
  apply session_complete h st hb chunks (g.length + q.length) n f _ hd
  · intro j hj e he
    rw [hs] at he
    rcases Nat.lt_or_ge j g.length with hlt | hge
    · have := extent_le _ e he
      omega
    · -- inside the quiet bytes the buffer starts with a byte of `q`
      obtain ⟨m, rfl⟩ : ∃ m, j = g.length + m := ⟨j - g.length, (Nat.add_sub_cancel' hge).symm⟩
      have hm : m < q.length := Nat.lt_of_add_lt_add_left hj
      rw [List.append_assoc, ← List.drop_drop, List.drop_left, List.drop_append_of_le_length (Nat.le_of_lt hm),
        List.drop_eq_getElem_cons hm, List.cons_append, extent_none_of_head _ _ (hq _ (List.getElem_mem hm))] at he
      cases he
  · rw [hs, ← List.length_append, List.drop_left]; exact hok

/-- never deaf **in every link state**: whatever was received before (`g`: noise, hostile headers, truncated frames -
    anything), once 65537 quiet bytes (here: zeros) have passed, the next well-formed data frame is handed to the upper
    layer as soon as it has arrived - under every chunking of the reads, whatever the handler did, from any state of the
    sequence numbers, with or without a transport, with or without a sender waiting for its acknowledgement (the three
    situations the property names: before the first transmission, while an acknowledgement is awaited, after close) -/
theorem C02_not_deaf_any_state (h : Frame → Bool) (st : RxState) (hb : st.buf = []) (chunks : List Bytes) (g w : Bytes)
    (k : Nat) (f : Frame) (n : Nat)
    (p : HLPacket) (hk : 65537 ≤ k) (hs : chunks.flatten = g ++ List.replicate k 0 ++ w)
    (hok : tryFrame w = .ok f n) (hd : isAck f = false) (hp : f.hl = some p) :
    f ∈ deliveredOf (session h st chunks).2 :=
  not_deaf_gap h st (by rw [hb]; rfl) chunks g (List.replicate k 0) w f n (by rw [List.length_replicate]; omega)
    (fun x hx => by rw [(List.mem_replicate.mp hx).2]; decide) (by rwa [hb]) hok hd

/-- **never deaf**, for the receiver as it starts -/
theorem C02_not_deaf (h : Frame → Bool) (tr : Bool) (chunks : List Bytes) (g w : Bytes) (k : Nat) (f : Frame) (n : Nat)
    (p : HLPacket) (hk : 65537 ≤ k) (hs : chunks.flatten = g ++ List.replicate k 0 ++ w)
    (hok : tryFrame w = .ok f n) (hd : isAck f = false) (hp : f.hl = some p) :
    f ∈ deliveredOf (session h { transport := tr } chunks).2 :=
  C02_not_deaf_any_state h { transport := tr } rfl chunks g w k f n p hk hs hok hd hp

/-- the premises are satisfiable: a command frame after garbage and a quiet gap -/
example : (match tryFrame (Frame.stamp 0 (Frame.mkData 0xC0 ⟨some 0x20000#32, [1]⟩ 12)).serialize with
    | .ok f n => n == 14 && !isAck f && f.hl.isSome
    | _ => false) = true := by decide +kernel

end Zboss.Rx
