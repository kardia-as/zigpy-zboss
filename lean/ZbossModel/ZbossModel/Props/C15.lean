import ZbossModel.Props.C04
/-! # C15 - failure responses cut short after the status are returned, never mis-parsed -/
namespace Zboss.Codec
open Wire

/-- **failure response cut short**: a response whose status code is non-zero and whose bytes stop anywhere
    inside (or right before) parameter `f` - after the three status fields - is delivered as the partial command
    carrying exactly the received TSN, status category, status code and the parameters completely contained in
    the bytes; nothing of the cut parameter, nothing invented -/
theorem C15_failure_prefix (v : View) (pre post : List FView) (f : FView) (xs : List Val) (x : Val) (b : Bytes) (k : Nat)
    (hfields : v.fields = pre ++ f :: post) (hrsp : ctype v = 1) (hsi : v.statusIdx = some 2)
    (hpre : givenOk pre xs = true) (h3 : 3 ≤ pre.length)
    (hstatus : isZeroStatus ((xs.map some).getD 2 none) = false)
    (hg : f.wt.isGreedy = false) (hb : encW f.wt x = some b) (hk : k < b.length)
    (hown : ∀ g ∈ pre, g.param ≠ f.param)
    (hall : allEnc v.fields (xs.map some ++ (f :: post).map (fun _ => none)) = true) :
    fromPayload v (encGiven pre xs ++ b.take k) =
      .ok (.partialCmd (xs.map some ++ (f :: post).map (fun _ => none))) := by
  rw [fromPayload_refused hfields hpre (decW_truncated f.wt x b hg hb k hk),
    onError_rsp_given hrsp hsi (givenOk_length pre xs hpre) h3 hown]
  simp only [hstatus, Bool.not_false, if_true, finish, hall]

/-- **status zero, cut short**: the same bytes with status code 0 are rejected - unless the cut is exactly
    at the start of an optional parameter, where the bytes *are* the complete encoding of the shorter command -/
theorem C15_zero_cut_rejected (v : View) (pre post : List FView) (f : FView) (xs : List Val) (x : Val) (b : Bytes) (k : Nat)
    (hfields : v.fields = pre ++ f :: post) (hrsp : ctype v = 1) (hsi : v.statusIdx = some 2)
    (hpre : givenOk pre xs = true) (h3 : 3 ≤ pre.length)
    (hstatus : isZeroStatus ((xs.map some).getD 2 none) = true)
    (hg : f.wt.isGreedy = false) (hb : encW f.wt x = some b) (hk : k < b.length)
    (hown : ∀ g ∈ pre, g.param ≠ f.param) (hcut : 0 < k ∨ f.optional = false) :
    fromPayload v (encGiven pre xs ++ b.take k) = .error .valueError := by
  have hne : ((b.take k).isEmpty && f.optional) = false := by
    rcases hcut with h | h
    · rw [List.isEmpty_eq_false_iff.mpr (List.ne_nil_of_length_pos (by rw [List.length_take]; omega)), Bool.false_and]
    · rw [h, Bool.and_false]
  rw [fromPayload_refused hfields hpre (decW_truncated f.wt x b hg hb k hk),
    onError_rsp_given hrsp hsi (givenOk_length pre xs hpre) h3 hown]
  simp only [hstatus, Bool.not_true, Bool.false_eq_true, if_false, hne]

/-- **surplus bytes**: a complete command followed by further bytes is rejected (last field not greedy) -/
theorem C15_surplus_rejected (v : View) (xs : List Val) (extra : Bytes) (hgiven : givenOk v.fields xs = true)
    (hextra : extra ≠ []) : fromPayload v (encGiven v.fields xs ++ extra) = .error .valueError := by
  have := parse_prefix v v.fields xs hgiven [] extra
  rw [List.append_nil] at this
  rw [fromPayload, this, parseLoop_nil, if_neg (by simpa using hextra)]

/-- **cut before the status**: bytes that stop inside the first three fields are rejected (the code raises
    `KeyError` on `params["StatusCode"]`) -/
theorem C15_cut_before_status (v : View) (pre post : List FView) (f : FView) (xs : List Val) (x : Val) (b : Bytes) (k : Nat)
    (hfields : v.fields = pre ++ f :: post) (hrsp : ctype v = 1) (hsi : v.statusIdx = some 2)
    (hpre : givenOk pre xs = true) (h3 : pre.length < 3)
    (hg : f.wt.isGreedy = false) (hb : encW f.wt x = some b) (hk : k < b.length) :
    fromPayload v (encGiven pre xs ++ b.take k) = .error .keyError := by
  rw [fromPayload_refused hfields hpre (decW_truncated f.wt x b hg hb k hk),
    onError_early hrsp hsi (by rw [List.length_map, givenOk_length pre xs hpre]; omega)]

-- decoders fail with value errors only (`C16_only_value_errors`): a `KeyError` out of `from_frame` comes from the status
-- lookup, as above

/-- what the theorems above ask of a response class - status code at wire field 2, optional fields parameters of
    their own, `fieldsOk` - holds for every response of the regenerated table -/
theorem C15_table_rsp : ((Gen.commands.map viewOf).filter (fun v => ctype v == 1)).all
    (fun v => v.statusIdx == some 2 && optParamsOwn v.fields && fieldsOk v.fields) = true := by
  refine List.all_eq_true.mpr fun v hv => ?_
  obtain ⟨hm, h1⟩ := List.mem_filter.mp hv
  have hs := schemaOK_of_mem v hm (by rw [beq_iff_eq.mp h1]; decide)
  simp only [SchemaOK, beq_iff_eq.mp h1, bne_self_eq_false, Bool.false_or, Bool.and_eq_true] at hs
  simp only [Bool.and_eq_true]
  exact ⟨⟨hs.2.1, hs.1.2⟩, hs.1.1⟩

/-- **never mis-parsed (complete decode)**: whenever `from_frame` returns a complete command, the command's
    own encoding is exactly the payload that was received - no byte skipped, invented or reinterpreted - and
    the command is one the constructor accepts -/
theorem C15_sound (v : View) (hs : SchemaOK v = true) (payload : Bytes) (a : Assign)
    (h : fromPayload v payload = .ok (.full a)) :
    encParams v.fields a = payload ∧ toBytes v a = toLE 4 v.header ++ payload := by
  simp only [SchemaOK, Bool.and_eq_true] at hs
  have := parse_sound v payload (fieldsOk_greedyPos _ hs.1.1) (optOwn_of _ hs.1.2) a h
  exact ⟨this, by rw [toBytes, this]⟩

/-- ... for every response / indication class of the regenerated command table -/
theorem C15_sound_all_classes (v : View) (hv : v ∈ Gen.commands.map viewOf) (hdir : ctype v ≠ 0) (payload : Bytes)
    (a : Assign) (h : fromPayload v payload = .ok (.full a)) : encParams v.fields a = payload := by
  exact (C15_sound v (schemaOK_of_mem v hv hdir) payload a h).1

/-- **never mis-parsed (failure response cut short)**: whenever `from_frame` returns a *partial* command, the
    parameters it carries re-encode to exactly the leading bytes of the payload; the bytes of the parameter that
    was cut are not turned into anything -/
theorem C15_partial_sound (v : View) (hs : SchemaOK v = true) (hc : contigOK v.fields = true) (payload : Bytes)
    (a : Assign) (h : fromPayload v payload = .ok (.partialCmd a)) :
    ∃ tail, encParams v.fields a ++ tail = payload := by
  simp only [SchemaOK, Bool.and_eq_true] at hs
  exact parse_partial_sound v payload (fieldsOk_greedyPos _ hs.1.1) hc a h

/-- every class of the regenerated table keeps the wire fields of one parameter together -/
theorem C15_table_contig : (Gen.commands.map viewOf).all (fun v => contigOK v.fields) = true := by decide +kernel

theorem C15_partial_sound_all_classes (v : View) (hv : v ∈ Gen.commands.map viewOf) (hdir : ctype v ≠ 0)
    (payload : Bytes) (a : Assign) (h : fromPayload v payload = .ok (.partialCmd a)) :
    ∃ tail, encParams v.fields a ++ tail = payload := by
  exact C15_partial_sound v (schemaOK_of_mem v hv hdir) (List.all_eq_true.mp C15_table_contig v hv) payload a h

/-! ## non-vacuity -/
example : let pre : List FView := [⟨.sc (.uint 1), false, 0, []⟩, ⟨.sc (.uint 1), false, 1, []⟩, ⟨.sc (.uint 1), false, 2, []⟩]
    givenOk pre [.sc (.num 9), .sc (.num 0), .sc (.num 24)] = true ∧
    isZeroStatus (([Val.sc (.num 9), .sc (.num 0), .sc (.num 24)].map some).getD 2 none) = false := by decide

end Zboss.Codec
