import ZbossModel.Proofs.HostFifo
/-! # C14 - blocking requests are mutually exclusive and served first-come first-served -/
namespace Zboss.Host

/-- **exclusive, every history**: at most one blocking request is past the blocking lock - from before its
    first frame goes out until it ends (response, timeout, cancellation), no other blocking request can
    transmit -/
theorem C14_exclusive (evs : List Ev) (r1 r2 : Req) (h1 : r1 ∈ (runEvents {} evs).1.reqs)
    (h2 : r2 ∈ (runEvents {} evs).1.reqs) (b1 : r1.blocking = true) (b2 : r2.blocking = true)
    (p1 : afterB r1.phase = true) (p2 : afterB r2.phase = true) : r1 = r2 :=
  same_of_lockPhase (inv2_reachable evs) .B h1 h2 ⟨b1, p1⟩ ⟨b2, p2⟩

/-- every phase in which a request writes frames or awaits its response is past the blocking lock -/
theorem C14_transmit_is_afterB (p : Phase) (h : inTransmit p = true ∨ p = .waitRsp) : afterB p = true := by
  rcases h with h | h
  · cases p <;> simp [inTransmit, afterB] at h ⊢
  · subst h; rfl

/-- **first come, first served**: taking a lock appends to the tail of its queue (once), success means being
    the head; releasing pops the head and wakes the new head -/
theorem C14_fifo (st : St) (l : Lock) (i : Nat) :
    queue (acquire st l i).1 l = (if (queue st l).contains i then queue st l else queue st l ++ [i]) ∧
    ((acquire st l i).2 = true ↔ (queue (acquire st l i).1 l).head? = some i) ∧
    queue (release st l i) l = (queue st l).drop 1 :=
  ⟨queue_acquire_self st l i, acquire_ok_iff st l i, queue_release_self st l i⟩

/-- **requests not marked blocking never wait for a blocking request**: they pass the blocking lock without
    touching it and compete for the message / transmit locks only -/
theorem C14_nonblocking_free (st : St) (i : Nat) (r : Req) (fuel : Nat) (hg : getReq st i = some r)
    (hp : r.phase = .waitB) (hnb : r.blocking = false) :
    runReq (fuel + 1) st i = runReq fuel (updReq st i fun r => { r with phase := .waitM }) i := by
  rw [runReq]; simp only [hg, hp, hnb, Bool.false_eq_true, if_false]

/-- **exclusive under every scheduling order** of the task micro-steps (see `MReach`): in every state the
    event loop can be in - also in the middle of a loop iteration - at most one blocking request is past the
    blocking lock -/
theorem C14_exclusive_any_schedule (hist : List Out) (st : St) (h : MReach hist st) (r1 r2 : Req)
    (h1 : r1 ∈ st.reqs) (h2 : r2 ∈ st.reqs) (b1 : r1.blocking = true) (b2 : r2.blocking = true)
    (p1 : afterB r1.phase = true) (p2 : afterB r2.phase = true) : r1 = r2 :=
  same_of_lockPhase (mreach_inv hist st h).1.1 .B h1 h2 ⟨b1, p1⟩ ⟨b2, p2⟩

/-- **requests not marked blocking never queue for the blocking lock - every history** -/
theorem C14_nonblocking_never_queues (evs : List Ev) (r : Req) (hr : r ∈ (runEvents {} evs).1.reqs)
    (hnb : r.blocking = false) : r.id ∉ (runEvents {} evs).1.bq := by
  intro hm
  have hg := good_reachable evs
  -- whoever stands in the queue of the blocking lock, waiting or holding, is a blocking request
  have hb : r.blocking = true := (hg.live.queued (l := .B) hg.inv.1 hr hm).2.blocking rfl
  rw [hb] at hnb; cases hnb

/-- … and so they are never parked behind a blocking request: what a non-blocking request can wait for is the message
    lock, the transmit lock, its acknowledgement and its own response -/
theorem C14_nonblocking_waits_only_for_the_link (evs : List Ev) (r : Req) (hr : r ∈ (runEvents {} evs).1.reqs)
    (hnb : r.blocking = false) (hp : r.phase ≠ .done) :
    (r.phase = .waitM ∧ r.id ∈ (runEvents {} evs).1.mq) ∨ (r.phase = .waitT ∧ r.id ∈ (runEvents {} evs).1.tq) ∨
    r.phase = .waitAck ∨ (r.phase = .waitRsp ∧ r.got = .nothing) := by
  rcases (good_reachable evs).live.parked (rest_reachable evs) hr hp with ⟨l, h1, h2, _⟩ | hw | hw
  · cases l with
    | B => exact absurd h2 (C14_nonblocking_never_queues evs r hr hnb)
    | M => exact Or.inl ⟨h1, h2⟩
    | T => exact Or.inr (Or.inl ⟨h1, h2⟩)
  · exact Or.inr (Or.inr (Or.inl hw))
  · exact Or.inr (Or.inr (Or.inr hw))

/-! ## non-vacuity: blocking 1 awaits its response, blocking 2 stays queued, non-blocking 3 is written at once -/
example : ((runEvents {} [.start 1 1 true 1 3013, .rxAck 0, .start 2 2 true 1 5026, .start 3 3 false 1 7039]).2.map
    fun l => l.filter isWD) = [[.write 1 0 0 1], [], [], [.write 3 0 1 1]] := by decide +kernel

/-- **first come, first served - every history**: if blocking request `r1` was issued before blocking request `r2` (it
    stands earlier in the request list) and is still waiting for the blocking lock, then `r2` is not past the lock: it has
    written nothing and awaits nothing.  Blocking requests get their turn in the order in which they were issued - whatever
    ACKs, responses, timeouts, cancellations, closes and reconnects happen in between. -/
theorem C14_first_come_first_served (evs : List Ev) (r1 r2 : Req) (pre post : List Req)
    (horder : (runEvents {} evs).1.reqs = pre ++ r1 :: post) (h2 : r2 ∈ post)
    (hb2 : r2.blocking = true) (hw1 : r1.phase = .waitB) : afterB r2.phase = false :=
  fcfs_of_qu (good_reachable evs).inv
    (fun _ hr hp => ((good_reachable evs).live.waits_queued (rest_reachable evs) hr (l := .B) hp).1)
    (qu_reachable evs).sub horder h2 hb2 hw1

/-- the queue of the blocking lock is ordered like the issue order, in every reachable state -/
theorem C14_queue_in_issue_order (evs : List Ev) :
    (runEvents {} evs).1.bq.Sublist ((runEvents {} evs).1.reqs.map (·.id)) := (qu_reachable evs).sub

/-! ## non-vacuity of `C14_first_come_first_served`: blocking request 1 awaits its response, blocking requests 2 and 3 were
    issued in that order and both wait for the lock (`r1` := request 2, `r2` := request 3); request 1 is cancelled: request 2
    gets its turn, request 3 still waits -/
example : let st := (runEvents {} [.start 1 1 true 1 300013, .rxAck 0, .start 2 2 true 1 500026, .start 3 3 true 1 700039]).1
    st.bq = [1, 2, 3] ∧ (st.reqs.map fun r => (r.id, r.blocking, r.phase)) = [(1, true, .waitRsp), (2, true, .waitB), (3, true, .waitB)] ∧
    (step st (.cancel 1)).bq = [2, 3] ∧
    ((step st (.cancel 1)).reqs.map fun r => (r.id, r.phase)) = [(1, .done), (2, .waitAck), (3, .waitB)] := by decide +kernel

/-! ## across `close()` / `connect()` on the same object: `C14_exclusive` quantifies over every history, `connect` events
    included.  Blocking request 1 awaits its response; a deliberate reset is in progress when the port is closed (the
    listeners are kept) and `connect()` opens a new connection; blocking request 2, issued on the new connection, is not
    written before request 1 has ended (here: by its response timeout) - the lock is the object's, not the connection's -/
example : ((runEvents {} [.start 1 1 true 1 300013, .rxAck 0, .setReset true, .close, .connect, .setReset false,
      .start 2 2 true 1 500026, .tick]).2.map fun l => l.filter isWD) =
    [[.write 1 0 0 1], [], [], [], [], [], [], [.done 1 .timeoutError, .write 2 0 0 1]] := by decide +kernel

end Zboss.Host
