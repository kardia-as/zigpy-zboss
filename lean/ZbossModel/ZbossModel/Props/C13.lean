import ZbossModel.Proofs.HostRest
import ZbossModel.Props.C12
/-! # C13 - a finished request leaves nothing behind, however it finished

`Host.step` is the request machine at quiescent points: request start, ACK / response bytes,
timer expiry (ACK wait or response timeout), cancellation of a request task in any phase, close,
connection loss, `connect()` again, the reset-in-progress flag.  `listeners` are the one-shot response
listeners `request` registers. -/
namespace Zboss.Host

/-- **no residue, every history**: after any sequence of events every registered response listener belongs
    to a request that is still running -/
theorem C13_no_residue (evs : List Ev) : NoResidue (runEvents {} evs).1 := nr_of_table (table_reachable evs)

/-- hence a request that has ended - by response, timeout, cancellation in any phase, close or loss - has no
    listener registered (request ids are unique) -/
theorem C13_finished_has_no_listener (evs : List Ev) (r : Req) (hr : r ∈ (runEvents {} evs).1.reqs)
    (hdone : r.phase = .done) : ∀ l ∈ (runEvents {} evs).1.listeners, l.1 ≠ r.id := by
  intro l hl heq
  obtain ⟨r', hr', hid, hph⟩ := C13_no_residue evs l hl
  rw [unique_of_id _ (inv2_reachable evs).1 r' r hr' hr (hid.trans heq)] at hph
  exact hph hdone

/-- a response is only ever handed to a running request: the listener it resolves is the first one registered
    for that command, and that listener's request has not finished -/
theorem C13_response_to_running (evs : List Ev) (key i k : Nat)
    (h : (runEvents {} evs).1.listeners.find? (fun l => l.2 == key) = some (i, k)) :
    ∃ r ∈ (runEvents {} evs).1.reqs, r.id = i ∧ r.phase ≠ .done :=
  C13_no_residue evs (i, k) (List.mem_of_find?_eq_some h)

/-- the listener is removed in the very step in which its request finishes (`finish` is the only place a
    request becomes done) -/
theorem C13_finish_removes (st : St) (i : Nat) (o : Outcome) : ∀ l ∈ (finish st i o).listeners, l.1 ≠ i := by
  intro l hl
  simp only [finish, emit, List.mem_filter] at hl
  simpa using hl.2

/-- a task step never registers a listener: listeners only disappear while requests run -/
theorem C13_no_new_listeners (fuel : Nat) (st : St) : ∀ l ∈ (settle fuel st).listeners, l ∈ st.listeners :=
  (frame_settle fuel st).listeners

/-- **no residue under every scheduling order** of the task micro-steps (see `MReach`), not only at the
    quiescent points of the FIFO run -/
theorem C13_no_residue_any_schedule (hist : List Out) (st : St) (h : MReach hist st) : NoResidue st :=
  (mreach_inv hist st h).2

/-- **a late response is discarded without effect**: when no waiter is registered for its command (the request ended
    by timeout, cancellation, close or loss, or was answered before), a response only gets its link-layer ACK: no
    request changes, no listener appears, nobody is woken -/
theorem C13_late_response_no_effect (st : St) (key : Nat) (hnone : st.listeners.find? (fun l => l.2 == key) = none)
    (hq : st.ready = []) :
    (step st (.rxRsp key)).reqs = st.reqs ∧ (step st (.rxRsp key)).listeners = st.listeners ∧
    (step st (.rxRsp key)).ready = [] ∧ (step st (.rxRsp key)).out = (if st.transport then [.wack] else []) := by
  rw [step_rxRsp_none st key hnone hq]
  exact ⟨rfl, rfl, hq, rfl⟩

/-- ... in particular after every history (the loop is at rest in every reachable state) -/
theorem C13_late_response_no_effect_reachable (evs : List Ev) (key : Nat)
    (hnone : (runEvents {} evs).1.listeners.find? (fun l => l.2 == key) = none) :
    (step (runEvents {} evs).1 (.rxRsp key)).reqs = (runEvents {} evs).1.reqs ∧
    (step (runEvents {} evs).1 (.rxRsp key)).listeners = (runEvents {} evs).1.listeners := by
  rw [step_rxRsp_none _ key hnone (rest_reachable evs)]
  exact ⟨rfl, rfl⟩

/-- **the next request for the same command receives its own response - every history**: if a request is running, has
    not been answered yet, and every other request for its command has ended (however: response, timeout, cancellation,
    close, loss), then the listener that the next response for that command resolves is this request's.  (The listener
    table is the list of the pending response futures - `Proofs/HostTable.lean`.) -/
theorem C13_next_request_gets_its_response (evs : List Ev) (r : Req) (hr : r ∈ (runEvents {} evs).1.reqs)
    (hp : r.phase ≠ .done) (hg : r.got = .nothing)
    (hsole : ∀ r' ∈ (runEvents {} evs).1.reqs, r'.key = r.key → r'.id ≠ r.id → r'.phase = .done) :
    (runEvents {} evs).1.listeners.find? (fun l => l.2 == r.key) = some (r.id, r.key) :=
  sole_waiter_of_table (table_reachable evs) r hr hp hg hsole

/-- one waiter per request, in every reachable state -/
theorem C13_one_waiter_per_request (evs : List Ev) : ((runEvents {} evs).1.listeners.map (·.1)).Nodup :=
  listeners_nodup (inv2_reachable evs) (table_reachable evs)

/-- **the request machine's response routing is the listener table's**: in every reachable state the waiters of the running
    requests form a listener table (`Dispatch.requestTable`: one one-shot listener per waiter, with the all-wildcard
    pattern of its response class, in registration order) on which the dispatch loop of `frame_received` (model of C12)
    resolves exactly the waiter that the request machine's `find?` picks, and after the deferred removal leaves exactly
    the list that its `filter` leaves.  So the abstraction of the listeners used by the C11 / C13 / C14 / C20 theorems
    is a refinement of the C12 model - not a second, independent reading of `api.py`. -/
theorem C13_routing_is_listener_table (evs : List Ev) (key : Nat) (ps : List (Option Nat)) :
    Dispatch.resolvedOf (Dispatch.dispatch ⟨key, ps⟩ (Dispatch.requestTable (runEvents {} evs).1.listeners) false).2 =
        (((runEvents {} evs).1.listeners.find? fun l => l.2 == key).map (·.1)).toList ∧
    ((Dispatch.dispatch ⟨key, ps⟩ (Dispatch.requestTable (runEvents {} evs).1.listeners) false).1.filter fun l => !l.done) =
      match (runEvents {} evs).1.listeners.find? fun l => l.2 == key with
      | none => Dispatch.requestTable (runEvents {} evs).1.listeners
      | some (i, _) => Dispatch.requestTable ((runEvents {} evs).1.listeners.filter (·.1 != i)) :=
  ⟨Dispatch.C12_request_waiters _ key ps, Dispatch.C12_request_waiters_table _ key ps (C13_one_waiter_per_request evs)⟩

/-! ## non-vacuity: request 1 (command 5) times out; request 2 for the same command is issued and acknowledged; the
    response goes to request 2 -/
example : let st := (runEvents {} [.start 1 5 false 1 3013, .rxAck 0, .tick, .start 2 5 false 1 5026, .rxAck 1]).1
    (st.reqs.map fun r => (r.id, r.key, r.phase, r.got)) = [(1, 5, .done, .nothing), (2, 5, .waitRsp, .nothing)] ∧
    st.listeners.find? (fun l => l.2 == 5) = some (2, 5) ∧ (step st (.rxRsp 5)).out = [.wack, .done 2 .ret] := by
  decide +kernel

/-! ## non-vacuity: a request cancelled while queued behind the message lock leaves no listener, and the
    response that arrives later goes to the next request for that command -/
example : let r := runEvents {} [.start 1 5 true 2 3013, .start 2 5 true 1 5026, .cancel 2, .rxAck 0, .rxAck 1,
      .start 3 5 true 1 3039, .rxRsp 5, .rxAck 2, .rxRsp 5]
    r.1.listeners = [] ∧ r.2.getLast? = some [.wack, .done 3 .ret] := by decide +kernel

end Zboss.Host
