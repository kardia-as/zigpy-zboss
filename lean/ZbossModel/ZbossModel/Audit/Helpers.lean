import ZbossModel.Proofs.Link
import ZbossModel.Proofs.Frame
import ZbossModel.Proofs.Codec
import ZbossModel.Proofs.HostPrim
import ZbossModel.Proofs.Dispatch
import ZbossModel.Proofs.CStructRT
/-! `#print axioms` for lemmas that the property files use but do not state themselves (the per-property audit files
    `Audit/Cxx.lean` are rewritten by the harness from the theorems of `Props/Cxx.lean`). -/
#print axioms Zboss.Link.grant_wrote
#print axioms Zboss.Frame.hasFlag_or
#print axioms Zboss.Rx.extent_le
#print axioms Zboss.Rx.extent_none_of_head
#print axioms Zboss.deserialize_ack
#print axioms Zboss.Frame.stamp_flags
#print axioms Zboss.HLPacket.body_some
#print axioms Zboss.Codec.givenOk_length
#print axioms Zboss.Codec.parse_prefix
#print axioms Zboss.Host.settle_idle
#print axioms Zboss.Dispatch.underHeader_of_match
#print axioms Zboss.Dispatch.runEvents_cons
#print axioms Zboss.Dispatch.runEvents_append
#print axioms Zboss.CStruct.pad_aligned
#print axioms Zboss.CStruct.pad_one
#print axioms Zboss.CStruct.alignList_pos
#print axioms Zboss.CStruct.align_pos
#print axioms Zboss.CStruct.align_packed
#print axioms Zboss.CStruct.alignList_packed
#print axioms Zboss.CStruct.layoutEnd_packed
