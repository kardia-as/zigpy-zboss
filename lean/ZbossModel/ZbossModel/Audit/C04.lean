import ZbossModel.Props.C04
#print axioms Zboss.Codec.C04_layout
#print axioms Zboss.Codec.C04_refusal
#print axioms Zboss.Codec.C04_uint_range
#print axioms Zboss.Codec.C04_sint_range
#print axioms Zboss.Codec.canon_given
#print axioms Zboss.Codec.optPrefixOk_given
#print axioms Zboss.Codec.status_before_optional
#print axioms Zboss.Codec.C04_roundtrip
#print axioms Zboss.Codec.C04_table_ok
#print axioms Zboss.Codec.schemaOK_of_mem
#print axioms Zboss.Codec.C04_all_classes
#print axioms Zboss.Codec.C04_canon_id
#print axioms Zboss.Codec.C04_one_ambiguous_class
#print axioms Zboss.Codec.C04_ambiguous_encoding
