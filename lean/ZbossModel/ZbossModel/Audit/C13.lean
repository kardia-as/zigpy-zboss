import ZbossModel.Props.C13
#print axioms Zboss.Host.C13_no_residue
#print axioms Zboss.Host.C13_finished_has_no_listener
#print axioms Zboss.Host.C13_response_to_running
#print axioms Zboss.Host.C13_finish_removes
#print axioms Zboss.Host.C13_no_new_listeners
#print axioms Zboss.Host.C13_no_residue_any_schedule
#print axioms Zboss.Host.C13_late_response_no_effect
#print axioms Zboss.Host.C13_late_response_no_effect_reachable
#print axioms Zboss.Host.C13_next_request_gets_its_response
#print axioms Zboss.Host.C13_one_waiter_per_request
#print axioms Zboss.Host.C13_routing_is_listener_table
