import ZbossModel.Props.C11
#print axioms Zboss.Host.C11_one_transmitter
#print axioms Zboss.Host.C11_ack_wait_inside_message
#print axioms Zboss.Host.C11_one_awaiting_ack
#print axioms Zboss.Host.C11_task_steps_frame
#print axioms Zboss.Host.C11_write_step
#print axioms Zboss.Host.C11_trace
#print axioms Zboss.Host.C11_contiguous
#print axioms Zboss.Host.after_last
#print axioms Zboss.Host.C11_no_fragment_after_end
#print axioms Zboss.Host.C11_no_write_is_skipped
#print axioms Zboss.Host.C11_any_schedule
#print axioms Zboss.Host.C11_run_is_a_schedule
#print axioms Zboss.Host.C11_no_write_while_ack_pending
#print axioms Zboss.Host.C11_each_after_ack_or_expiry
#print axioms Zboss.Reasm.C11_ncp_sees_request
#print axioms Zboss.Reasm.C11_ncp_sees_small_request
