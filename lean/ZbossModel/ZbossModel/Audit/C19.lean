import ZbossModel.Props.C19
#print axioms Zboss.Codec.all_contains_of_sublist
#print axioms Zboss.Codec.C19_table_preserved
#print axioms Zboss.Codec.C19_view_preserved
#print axioms Zboss.Codec.C19_same_bytes
#print axioms Zboss.Codec.nodup_of_distinct
#print axioms Zboss.Codec.C19_headers_injective
#print axioms Zboss.Codec.C19_headers_sane
#print axioms Zboss.Codec.count_idsOf
#print axioms Zboss.Codec.paired_of_ids
#print axioms Zboss.Codec.C19_req_rsp_paired
#print axioms Zboss.Codec.C19_rsp_status_prefix
#print axioms Zboss.Codec.C19_pinned_count
