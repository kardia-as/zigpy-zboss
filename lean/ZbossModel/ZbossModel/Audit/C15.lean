import ZbossModel.Props.C15
#print axioms Zboss.Codec.C15_failure_prefix
#print axioms Zboss.Codec.C15_zero_cut_rejected
#print axioms Zboss.Codec.C15_surplus_rejected
#print axioms Zboss.Codec.C15_cut_before_status
#print axioms Zboss.Codec.C15_table_rsp
#print axioms Zboss.Codec.C15_sound
#print axioms Zboss.Codec.C15_sound_all_classes
#print axioms Zboss.Codec.C15_partial_sound
#print axioms Zboss.Codec.C15_table_contig
#print axioms Zboss.Codec.C15_partial_sound_all_classes
