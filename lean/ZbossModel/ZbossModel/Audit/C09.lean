import ZbossModel.Props.C09
#print axioms Zboss.Frag.C09_body_max
#print axioms Zboss.Frag.mkData_facts
#print axioms Zboss.Frag.midFrag_eq_mkData
#print axioms Zboss.Frag.C09_single
#print axioms Zboss.Frag.firstFrag_facts
#print axioms Zboss.Frag.midFrag_facts
#print axioms Zboss.Frag.lastFrag_facts
#print axioms Zboss.Frag.C09_partition
#print axioms Zboss.Frag.stamp_mid
#print axioms Zboss.Frag.C09_source_exprs
