import ZbossModel.Props.C18
#print axioms Zboss.App.sendPacket_req
#print axioms Zboss.App.fromLE_le16
#print axioms Zboss.App.C18_send_fields
#print axioms Zboss.App.C18_param_section_21
#print axioms Zboss.App.C18_dst_addr_le
#print axioms Zboss.App.C18_ieee_unchanged
#print axioms Zboss.App.C18_options_and_mode
#print axioms Zboss.App.C18_indication
#print axioms Zboss.App.C18_seq_never_255
#print axioms Zboss.App.C18_seq_step
#print axioms Zboss.App.C18_bind
#print axioms Zboss.App.C18_source_exprs
