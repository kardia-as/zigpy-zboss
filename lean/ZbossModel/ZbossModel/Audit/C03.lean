import ZbossModel.Props.C03
#print axioms Zboss.Crc.C03_crc16_transition
#print axioms Zboss.Crc.C03_crc8_transition
#print axioms Zboss.Crc.C03_crc8_is_koop
#print axioms Zboss.Crc.C03_crc16_is_kermit
#print axioms Zboss.Crc.C03_check_values
#print axioms Zboss.Crc.C03_incremental8
#print axioms Zboss.Crc.C03_incremental16
#print axioms Zboss.Crc.eq_of_length_five
#print axioms Zboss.Crc.headerOk_length
#print axioms Zboss.Crc.headerOk_xorL
#print axioms Zboss.Crc.syndrome_xorL
#print axioms Zboss.Crc.errBytes_length
#print axioms Zboss.Crc.errBytes_of_ne
#print axioms Zboss.Crc.hd3_syndromes
#print axioms Zboss.Crc.C03_header_hd3
#print axioms Zboss.Crc.C03_body_burst16
#print axioms Zboss.Crc.C03_crcfield_corruption
