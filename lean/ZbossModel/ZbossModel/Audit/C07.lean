import ZbossModel.Props.C07
#print axioms Zboss.Link.grant_inv
#print axioms Zboss.Link.C07_inv_step
#print axioms Zboss.Link.runEvents_inv
#print axioms Zboss.Link.C07_inv_reachable
#print axioms Zboss.Link.passive_wrote
#print axioms Zboss.Link.C07_stop_and_wait
#print axioms Zboss.Link.C07_event_needs_ack
#print axioms Zboss.Link.C07_fresh_event
#print axioms Zboss.Link.C07_fifo
#print axioms Zboss.Link.grant_one_write
#print axioms Zboss.Link.monStep_passive
#print axioms Zboss.Link.mon_passive
#print axioms Zboss.Link.mon_grant
#print axioms Zboss.Link.mon_event
#print axioms Zboss.Link.mon_step
#print axioms Zboss.Link.mon_runEvents
#print axioms Zboss.Link.C07_trace
