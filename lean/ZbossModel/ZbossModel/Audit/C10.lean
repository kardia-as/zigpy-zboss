import ZbossModel.Props.C10
#print axioms Zboss.Reasm.feedFrames_cons
#print axioms Zboss.Reasm.feedFrames_append
#print axioms Zboss.Reasm.feed_mids
#print axioms Zboss.Reasm.feedFrames_train
#print axioms Zboss.Reasm.C10_reassembly
#print axioms Zboss.Reasm.C10_restart
#print axioms Zboss.Reasm.C10_interrupted_then_fragmented
#print axioms Zboss.Reasm.flags_stamped
#print axioms Zboss.Reasm.C10_loopback
#print axioms Zboss.Reasm.stamp_body
#print axioms Zboss.Reasm.stamp_isFirst_isLast_isAck
#print axioms Zboss.Reasm.wireOK_mkData
#print axioms Zboss.Reasm.wireOK_first
#print axioms Zboss.Reasm.wireOK_last
#print axioms Zboss.Reasm.wireOK_mid
#print axioms Zboss.Reasm.wireOK_whole
#print axioms Zboss.Reasm.fragments_wireOK
#print axioms Zboss.Reasm.stamped_wireOK
#print axioms Zboss.Reasm.stamped_append_inv
#print axioms Zboss.Reasm.stamped_mids
#print axioms Zboss.Reasm.reassembly_stamped
#print axioms Zboss.Reasm.C10_wire_loopback
#print axioms Zboss.Reasm.stamped_exists
