import ZbossModel.Props.C08
#print axioms Zboss.Link.C08_ack_step
#print axioms Zboss.Link.C08_seq_step
#print axioms Zboss.Link.C08_data_frames_dont_move
#print axioms Zboss.Link.runEvents_packSeq
#print axioms Zboss.Link.C08_range
#print axioms Zboss.Link.C08_zero_only_initially
#print axioms Zboss.Link.C08_stamp
#print axioms Zboss.Link.C08_stamp_bytes
#print axioms Zboss.Link.C08_source_exprs
