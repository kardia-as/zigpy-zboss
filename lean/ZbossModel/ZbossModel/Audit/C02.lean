import ZbossModel.Props.C02
#print axioms Zboss.Rx.C02_never_raises
#print axioms Zboss.Rx.C02_decoder_errors
#print axioms Zboss.Rx.C02_handler_independent
#print axioms Zboss.Rx.C02_pending_is_short
#print axioms Zboss.Rx.C02_pending_bounded
#print axioms Zboss.Rx.C02_ack_any_state
#print axioms Zboss.Rx.not_deaf_gap
#print axioms Zboss.Rx.C02_not_deaf_any_state
#print axioms Zboss.Rx.C02_not_deaf
