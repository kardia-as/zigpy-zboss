import ZbossModel.Props.C05
#print axioms Zboss.Gen.C05_LLHeader_signature_with_signature
#print axioms Zboss.Gen.C05_LLHeader_signature_with_size
#print axioms Zboss.Gen.C05_LLHeader_signature_with_type
#print axioms Zboss.Gen.C05_LLHeader_signature_with_flags
#print axioms Zboss.Gen.C05_LLHeader_signature_with_crc8
#print axioms Zboss.Gen.C05_LLHeader_size_with_signature
#print axioms Zboss.Gen.C05_LLHeader_size_with_size
#print axioms Zboss.Gen.C05_LLHeader_size_with_type
#print axioms Zboss.Gen.C05_LLHeader_size_with_flags
#print axioms Zboss.Gen.C05_LLHeader_size_with_crc8
#print axioms Zboss.Gen.C05_LLHeader_frame_type_with_signature
#print axioms Zboss.Gen.C05_LLHeader_frame_type_with_size
#print axioms Zboss.Gen.C05_LLHeader_frame_type_with_type
#print axioms Zboss.Gen.C05_LLHeader_frame_type_with_flags
#print axioms Zboss.Gen.C05_LLHeader_frame_type_with_crc8
#print axioms Zboss.Gen.C05_LLHeader_flags_with_signature
#print axioms Zboss.Gen.C05_LLHeader_flags_with_size
#print axioms Zboss.Gen.C05_LLHeader_flags_with_type
#print axioms Zboss.Gen.C05_LLHeader_flags_with_flags
#print axioms Zboss.Gen.C05_LLHeader_flags_with_crc8
#print axioms Zboss.Gen.C05_LLHeader_crc8_with_signature
#print axioms Zboss.Gen.C05_LLHeader_crc8_with_size
#print axioms Zboss.Gen.C05_LLHeader_crc8_with_type
#print axioms Zboss.Gen.C05_LLHeader_crc8_with_flags
#print axioms Zboss.Gen.C05_LLHeader_crc8_with_crc8
#print axioms Zboss.Gen.C05_HLHeader_version_with_version
#print axioms Zboss.Gen.C05_HLHeader_version_with_type
#print axioms Zboss.Gen.C05_HLHeader_version_with_id
#print axioms Zboss.Gen.C05_HLHeader_control_type_with_version
#print axioms Zboss.Gen.C05_HLHeader_control_type_with_type
#print axioms Zboss.Gen.C05_HLHeader_control_type_with_id
#print axioms Zboss.Gen.C05_HLHeader_id_with_version
#print axioms Zboss.Gen.C05_HLHeader_id_with_type
#print axioms Zboss.Gen.C05_HLHeader_id_with_id
#print axioms Zboss.Gen.LLHeader.getters_fit
#print axioms Zboss.C05_frame_wf
#print axioms Zboss.Ref.decode_data
#print axioms Zboss.C05_ref_roundtrip
#print axioms Zboss.C05_lib_roundtrip
#print axioms Zboss.C05_ack
