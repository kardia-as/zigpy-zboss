import ZbossModel.Props.C17
#print axioms Zboss.Match.agree_iff
#print axioms Zboss.Match.C17_matches_iff
#print axioms Zboss.Match.agree_refl
#print axioms Zboss.Match.C17_matches_refl
#print axioms Zboss.Match.agree_trans
#print axioms Zboss.Match.C17_matches_trans
#print axioms Zboss.Match.matches_trans_wf
#print axioms Zboss.Match.insertMax_forall
#print axioms Zboss.Match.anyMatch_insertMax
#print axioms Zboss.Match.C17_dedup_equiv
#print axioms Zboss.Match.C17_dedup_nonempty
