import ZbossModel.Props.C20
#print axioms Zboss.Host.C20_refuse_new
#print axioms Zboss.Host.C20_close
#print axioms Zboss.Host.C20_close_cancels
#print axioms Zboss.Host.C20_close_idempotent
#print axioms Zboss.Host.C20_lost_once
#print axioms Zboss.Host.C20_no_spurious_report
#print axioms Zboss.Host.C20_close_shuts
#print axioms Zboss.Host.C20_shut_forever
#print axioms Zboss.Host.C20_none_awaits_response
#print axioms Zboss.Host.C20_next_step_ends
#print axioms Zboss.Host.C20_close_reaches_every_request
#print axioms Zboss.Host.C20_loop_comes_to_rest
#print axioms Zboss.Host.C20_no_stranding
#print axioms Zboss.Host.C20_close_drains
#print axioms Zboss.Host.C20_close_bounded
#print axioms Zboss.Host.C20_response_wait_ends_at_deadline
#print axioms Zboss.Host.C20_task_runs_to_a_stop
#print axioms Zboss.Host.C20_loss_requests_end_with_their_timers
#print axioms Zboss.Host.C20_no_uart_requests_end_with_their_timers
#print axioms Zboss.Host.C20_timer_expiry_makes_progress
#print axioms Zboss.Host.C20_connect_reopens
#print axioms Zboss.Host.C20_ack_on_new_connection
