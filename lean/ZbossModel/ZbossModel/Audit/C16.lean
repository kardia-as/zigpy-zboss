import ZbossModel.Props.C16
#print axioms Zboss.Wire.C16_scalar_inverse
#print axioms Zboss.Wire.C16_inverse
#print axioms Zboss.Wire.C16_greedy_inverse
#print axioms Zboss.Wire.C16_decode_sound
#print axioms Zboss.Wire.C16_truncated
#print axioms Zboss.Wire.C16_only_value_errors
#print axioms Zboss.Wire.C16_rows_size
#print axioms Zboss.CStruct.C16_offsets_aligned
#print axioms Zboss.CStruct.C16_size_aligned
#print axioms Zboss.CStruct.C16_packed
#print axioms Zboss.CStruct.C16_padding_small
#print axioms Zboss.CStruct.C16_nvram_addrmap
#print axioms Zboss.CStruct.C16_nvram_apskeys
#print axioms Zboss.CStruct.C16_cstruct_roundtrip
