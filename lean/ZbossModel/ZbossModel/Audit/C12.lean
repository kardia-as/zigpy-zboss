import ZbossModel.Props.C12
#print axioms Zboss.Dispatch.C12_match_same_type
#print axioms Zboss.Dispatch.C12_oneshot
#print axioms Zboss.Dispatch.C12_at_most_one
#print axioms Zboss.Dispatch.C12_callbacks
#print axioms Zboss.Dispatch.C12_dispatch_keeps_ids
#print axioms Zboss.Dispatch.C12_history_resolved_once
#print axioms Zboss.Dispatch.C12_history_never_after_cancel
#print axioms Zboss.Dispatch.C12_history_split
#print axioms Zboss.Dispatch.C12_request_waiters
#print axioms Zboss.Dispatch.C12_request_waiters_table
